/-!
# Byte-level JSON as `encoding/json` sees it

The validity scanner of `encoding/json` (scanner.go) modelled state by state as a pushdown
automaton `step : S → UInt8 → Option S` (`none` = syntax error) folded over the bytes, plus the
pieces of the decoder the library relies on: splitting a valid top-level array / object into the
raw texts of its elements / members (`json.Unmarshal` into `[]json.RawMessage` and
`map[string]json.RawMessage`), string unquoting for keys and string fields, and `bytes.TrimSpace`
/ `firstByte`.  Everything is total and executable; there is no fuel and no nested inductive.
-/
namespace Jrpc.Json

abbrev Bytes := List UInt8

inductive Frame | objKey | objVal | arr
  deriving DecidableEq, Repr

/-- the scanner's `step` function values -/
inductive Q
  | beginValueOrEmpty | beginValue | beginStringOrEmpty | beginString | endValue | endTop
  | inString | inStringEsc | escU | escU1 | escU12 | escU123
  | neg | num1 | num0 | dot | dot0 | e | eSign | e0
  | t | tr | tru | f | fa | fal | fals | n | nu | nul
  deriving DecidableEq, Repr

structure S where
  q : Q
  st : List Frame
  deriving DecidableEq, Repr

def maxNestingDepth : Nat := 10000

def isSpace (c : UInt8) : Bool := c == 32 || c == 9 || c == 13 || c == 10
def isDigit (c : UInt8) : Bool := 48 ≤ c && c ≤ 57
def isHex (c : UInt8) : Bool := isDigit c || (97 ≤ c && c ≤ 102) || (65 ≤ c && c ≤ 70)

/-- `popParseState` -/
def pop : List Frame → S
  | [] => ⟨.endTop, []⟩          -- unreachable: pop is only called with a non-empty stack
  | [_] => ⟨.endTop, []⟩
  | _ :: r => ⟨.endValue, r⟩

/-- `stateEndValue` -/
def endValue (st : List Frame) (c : UInt8) : Option S :=
  match st with
  | [] => if isSpace c then some ⟨.endTop, []⟩ else none       -- stateEndTop
  | fr :: r =>
    if isSpace c then some ⟨.endValue, st⟩ else
    match fr with
    | .objKey => if c == 58 then some ⟨.beginValue, .objVal :: r⟩ else none
    | .objVal =>
      if c == 44 then some ⟨.beginString, .objKey :: r⟩
      else if c == 125 then some (pop st) else none
    | .arr =>
      if c == 44 then some ⟨.beginValue, st⟩
      else if c == 93 then some (pop st) else none

/-- `pushParseState` -/
def push (fr : Frame) (st : List Frame) (q : Q) : Option S :=
  if st.length + 1 ≤ maxNestingDepth then some ⟨q, fr :: st⟩ else none

/-- `stateBeginValue` -/
def beginValue (st : List Frame) (c : UInt8) : Option S :=
  if isSpace c then some ⟨.beginValue, st⟩
  else if c == 123 then push .objKey st .beginStringOrEmpty
  else if c == 91 then push .arr st .beginValueOrEmpty
  else if c == 34 then some ⟨.inString, st⟩
  else if c == 45 then some ⟨.neg, st⟩
  else if c == 48 then some ⟨.num0, st⟩
  else if c == 116 then some ⟨.t, st⟩
  else if c == 102 then some ⟨.f, st⟩
  else if c == 110 then some ⟨.n, st⟩
  else if 49 ≤ c && c ≤ 57 then some ⟨.num1, st⟩
  else none

def beginString (st : List Frame) (c : UInt8) : Option S :=
  if isSpace c then some ⟨.beginString, st⟩
  else if c == 34 then some ⟨.inString, st⟩ else none

def lit (st : List Frame) (c want : UInt8) (next : Q) : Option S :=
  if c == want then some ⟨next, st⟩ else none

/-- one scanner step -/
def step (s : S) (c : UInt8) : Option S :=
  let st := s.st
  match s.q with
  | .beginValueOrEmpty =>
    if isSpace c then some s
    else if c == 93 then endValue st c else beginValue st c
  | .beginValue => if isSpace c then some s else beginValue st c
  | .beginStringOrEmpty =>
    if isSpace c then some s
    else if c == 125 then
      (match st with
       | _ :: r => endValue (.objVal :: r) c
       | [] => none)
    else beginString st c
  | .beginString => if isSpace c then some s else beginString st c
  | .endValue => endValue st c
  | .endTop => if isSpace c then some s else none
  | .inString =>
    if c == 34 then some ⟨.endValue, st⟩
    else if c == 92 then some ⟨.inStringEsc, st⟩
    else if c < 32 then none else some s
  | .inStringEsc =>
    if c == 98 || c == 102 || c == 110 || c == 114 || c == 116 || c == 92 || c == 47 || c == 34 then
      some ⟨.inString, st⟩
    else if c == 117 then some ⟨.escU, st⟩ else none
  | .escU => if isHex c then some ⟨.escU1, st⟩ else none
  | .escU1 => if isHex c then some ⟨.escU12, st⟩ else none
  | .escU12 => if isHex c then some ⟨.escU123, st⟩ else none
  | .escU123 => if isHex c then some ⟨.inString, st⟩ else none
  | .neg =>
    if c == 48 then some ⟨.num0, st⟩
    else if 49 ≤ c && c ≤ 57 then some ⟨.num1, st⟩ else none
  | .num1 => if isDigit c then some s else
    (if c == 46 then some ⟨.dot, st⟩ else if c == 101 || c == 69 then some ⟨.e, st⟩ else endValue st c)
  | .num0 =>
    if c == 46 then some ⟨.dot, st⟩ else if c == 101 || c == 69 then some ⟨.e, st⟩ else endValue st c
  | .dot => if isDigit c then some ⟨.dot0, st⟩ else none
  | .dot0 => if isDigit c then some s else
    (if c == 101 || c == 69 then some ⟨.e, st⟩ else endValue st c)
  | .e => if c == 43 || c == 45 then some ⟨.eSign, st⟩ else if isDigit c then some ⟨.e0, st⟩ else none
  | .eSign => if isDigit c then some ⟨.e0, st⟩ else none
  | .e0 => if isDigit c then some s else endValue st c
  | .t => lit st c 114 .tr
  | .tr => lit st c 117 .tru
  | .tru => lit st c 101 .endValue
  | .f => lit st c 97 .fa
  | .fa => lit st c 108 .fal
  | .fal => lit st c 115 .fals
  | .fals => lit st c 101 .endValue
  | .n => lit st c 117 .nu
  | .nu => lit st c 108 .nul
  | .nul => lit st c 108 .endValue

def start : S := ⟨.beginValue, []⟩

def run (s : S) : Bytes → Option S
  | [] => some s
  | b :: bs => (step s b).bind (run · bs)

/-- `scanner.eof`: the text is complete iff after a final space the scanner is at `endTop`. -/
def atEnd (s : S) : Bool :=
  match s.q with
  | .endTop => true
  | _ => match step s 32 with
    | some s' => s'.q == .endTop
    | none => false

/-- `json.Valid` / `checkValid`. -/
def valid (bs : Bytes) : Bool :=
  match run start bs with
  | some s => atEnd s
  | none => false

/-! ## bytes.TrimSpace / firstByte (ASCII white space; see DESIGN for the Unicode caveat) -/

def isAsciiSpace (c : UInt8) : Bool := c == 32 || c == 9 || c == 10 || c == 11 || c == 12 || c == 13

def trimLeft (bs : Bytes) : Bytes := bs.dropWhile isAsciiSpace
def trimRight (bs : Bytes) : Bytes := (bs.reverse.dropWhile isAsciiSpace).reverse
def trimSpace (bs : Bytes) : Bytes := trimRight (trimLeft bs)

/-- `firstByte` of json.go: first non-blank byte or 0 -/
def firstByte (bs : Bytes) : UInt8 :=
  match trimLeft bs with
  | [] => 0
  | b :: _ => b

/-! ## Splitting a valid text into raw sub-values

`elements` gives, for a valid array text, the raw texts of its elements exactly as
`json.Unmarshal(data, &[]json.RawMessage)` stores them (no surrounding white space);
`members` does the same for an object text (`map[string]json.RawMessage` before key decoding:
pairs of raw key text and raw value text, in source order, duplicates kept).
Both walk the text with the scanner and cut at depth-1 delimiters. -/

structure Cut where
  s : S
  cur : Bytes          -- reversed bytes of the element being collected
  started : Bool       -- a non-space byte of the current element has been seen
  out : List Bytes     -- finished elements, reversed
  deriving Repr

/-- Feed one byte of an array/object body. `depth1` says whether the scanner stack had exactly one
frame before the byte (i.e. we are directly inside the outer container). -/
def cutStep (c : Cut) (b : UInt8) : Option Cut :=
  match step c.s b with
  | none => none
  | some s' =>
    let d := c.s.st.length
    let d' := s'.st.length
    -- a delimiter of the outer container: scanner was in a position to end a depth-1 value
    let isDelim := d == 1 && (b == 44 || b == 58) &&
        (match c.s.q with | .inString | .inStringEsc | .escU | .escU1 | .escU12 | .escU123 => false | _ => true)
    let isClose := d == 1 && d' == 0
    let isOpen := d == 0 && d' == 1
    if isOpen then some { c with s := s' }
    else if isDelim || isClose then
      let fin := if c.started then (c.cur.dropWhile isSpace).reverse :: c.out else c.out
      some { s := s', cur := [], started := false, out := fin }
    else if !c.started && isSpace b then some { c with s := s' }
    else some { c with s := s', cur := b :: c.cur, started := true }

def cutRun (c : Cut) : Bytes → Option Cut
  | [] => some c
  | b :: bs => (cutStep c b).bind (cutRun · bs)

/-- raw pieces between depth-1 delimiters of a valid container text -/
def pieces (bs : Bytes) : Option (List Bytes) :=
  if !valid bs then none else
  match cutRun ⟨start, [], false, []⟩ bs with
  | some c => some c.out.reverse
  | none => none

/-- elements of a valid JSON array text; `none` if the text is invalid or not an array -/
def elements (bs : Bytes) : Option (List Bytes) :=
  if firstByte bs != 91 then none else pieces bs

def pairUp : List Bytes → Option (List (Bytes × Bytes))
  | [] => some []
  | k :: v :: r => (pairUp r).map ((k, v) :: ·)
  | [_] => none

/-- members (raw key text, raw value text) of a valid JSON object text -/
def members (bs : Bytes) : Option (List (Bytes × Bytes)) :=
  if firstByte bs != 123 then none else (pieces bs).bind pairUp

/-! ## String literals -/

def hexv (c : UInt8) : Nat :=
  if isDigit c then (c - 48).toNat else if 97 ≤ c && c ≤ 102 then (c - 87).toNat else (c - 55).toNat

/-- UTF-8 encoding of a code point (surrogates and out-of-range become U+FFFD) -/
def utf8 (n : Nat) : Bytes :=
  if n < 0x80 then [n.toUInt8]
  else if n < 0x800 then [(0xC0 + n / 64).toUInt8, (0x80 + n % 64).toUInt8]
  else if (0xD800 ≤ n && n < 0xE000) || n > 0x10FFFF then [0xEF, 0xBF, 0xBD]
  else if n < 0x10000 then [(0xE0 + n / 4096).toUInt8, (0x80 + n / 64 % 64).toUInt8, (0x80 + n % 64).toUInt8]
  else [(0xF0 + n / 262144).toUInt8, (0x80 + n / 4096 % 64).toUInt8, (0x80 + n / 64 % 64).toUInt8, (0x80 + n % 64).toUInt8]

def hex4 : Bytes → Option (Nat × Bytes)
  | a :: b :: c :: d :: r =>
    if isHex a && isHex b && isHex c && isHex d then
      some (hexv a * 4096 + hexv b * 256 + hexv c * 16 + hexv d, r) else none
  | _ => none

/-- body of `unquote` on the bytes between the quotes (valid UTF-8 input passes through;
the harness keeps generated strings valid UTF-8, so the U+FFFD substitution of invalid bytes is
outside the modelled domain). Structural on a fuel equal to the length. -/
def unquoteBody : Nat → Bytes → Option Bytes
  | 0, [] => some []
  | 0, _ => none
  | _ + 1, [] => some []
  | fuel + 1, 92 :: r =>
    (match r with
     | 117 :: r' =>
       (match hex4 r' with
        | none => none
        | some (u, r'') =>
          if 0xD800 ≤ u && u < 0xDC00 then
            (match r'' with
             | 92 :: 117 :: r3 =>
               (match hex4 r3 with
                | some (l, r4) =>
                  if 0xDC00 ≤ l && l < 0xE000 then
                    (unquoteBody fuel r4).map (utf8 (0x10000 + (u - 0xD800) * 1024 + (l - 0xDC00)) ++ ·)
                  else (unquoteBody fuel r'').map (utf8 0xFFFD ++ ·)
                | none => (unquoteBody fuel r'').map (utf8 0xFFFD ++ ·))
             | _ => (unquoteBody fuel r'').map (utf8 0xFFFD ++ ·))
          else (unquoteBody fuel r'').map (utf8 u ++ ·))
     | 98 :: r' => (unquoteBody fuel r').map (8 :: ·)
     | 102 :: r' => (unquoteBody fuel r').map (12 :: ·)
     | 110 :: r' => (unquoteBody fuel r').map (10 :: ·)
     | 114 :: r' => (unquoteBody fuel r').map (13 :: ·)
     | 116 :: r' => (unquoteBody fuel r').map (9 :: ·)
     | 92 :: r' => (unquoteBody fuel r').map (92 :: ·)
     | 47 :: r' => (unquoteBody fuel r').map (47 :: ·)
     | 34 :: r' => (unquoteBody fuel r').map (34 :: ·)
     | _ => none)
  | fuel + 1, c :: r => if c == 34 || c < 32 then none else (unquoteBody fuel r).map (c :: ·)

/-- decode a JSON string literal text (`"…"`) into its bytes; `none` if it is not a string literal -/
def unquote (bs : Bytes) : Option Bytes :=
  match bs with
  | 34 :: r =>
    (match r.reverse with
     | 34 :: body => unquoteBody (body.length) body.reverse
     | _ => none)
  | _ => none

def hexDigitByte (n : Nat) : UInt8 := if n < 10 then (48 + n).toUInt8 else (87 + n).toUInt8

/-- `json.Marshal` of a Go string (valid UTF-8 assumed): the default HTML-safe escaping -/
def escByte (c : UInt8) : Bytes :=
  if c == 34 then [92, 34]
  else if c == 92 then [92, 92]
  else if c == 8 then [92, 98]
  else if c == 12 then [92, 102]
  else if c == 10 then [92, 110]
  else if c == 13 then [92, 114]
  else if c == 9 then [92, 116]
  else if c < 32 || c == 60 || c == 62 || c == 38 then
    [92, 117, 48, 48, hexDigitByte (c.toNat / 16), hexDigitByte (c.toNat % 16)]
  else [c]

def quoteBody : Bytes → Bytes
  | 0xE2 :: 0x80 :: 0xA8 :: r => [92, 117, 50, 48, 50, 56] ++ quoteBody r
  | 0xE2 :: 0x80 :: 0xA9 :: r => [92, 117, 50, 48, 50, 57] ++ quoteBody r
  | c :: r => escByte c ++ quoteBody r
  | [] => []

def quote (bs : Bytes) : Bytes := 34 :: quoteBody bs ++ [34]

/-- Go map semantics on decoded (key, raw value) pairs: the last duplicate wins -/
def lookupLastRaw (k : Bytes) : List (Bytes × Bytes) → Option Bytes
  | [] => none
  | (k', v) :: r => match lookupLastRaw k r with
    | some x => some x
    | none => if k' = k then some v else none

end Jrpc.Json
