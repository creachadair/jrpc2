import Jrpc.Tie.C02
/-! # Tie obligations for the member parser and the encoder, translated as a whole

`go2lean` translates the body of the `for key, val := range obj` loop of `jmessage.parseJSON`
(`Gen.Funcs.parseField`), the statements after it (`parsePost`) and `jmessage.toJSON` from the
*current source*. Go iterates over a map in an unspecified order; the theorem below is for
**every** enumeration of the map's entries: whatever the order, the state the translated code
ends in carries the fields the model's `parseObject` computes, and its deferred error is one of
the codes the model admits (none iff the model admits none).

Each translated function is first brought into the model's terms by one equation (`pf_spec`,
`parsePost_eq`, `toJSON_eq`), proved by deciding the inputs that select a branch and simplifying,
never by comparing terms as they are printed: the translator's arrangement of the cases changes
with every refactoring of the source. Everything after these equations is about the model only. -/
namespace Jrpc.Tie.Parse
open Jrpc.Gen Jrpc.GoPrelude Jrpc.Wire Jrpc.Tie.C02 Jrpc.Tie.Bytes

/-- `json.Unmarshal(val, &s)` for a string field holding `old` -/
def unmStrM (val old : List UInt8) : List UInt8 × Bool :=
  match decodeString val with
  | some s => (if Wire.isNull val then old else s, false)
  | none => (old, true)

/-- `json.Unmarshal(val, &e)` for an `*Error` field: `null` clears it, a well-typed object sets
it, anything else fails *and* leaves it allocated -/
def unmErrM (val : List UInt8) (_old : Option Unit) : Option Unit × Bool :=
  if errorValueOK val then (if Wire.isNull val then none else some (), false) else (some (), true)

def fbM (b : List UInt8) : Int := ((Jrpc.Json.firstByte b).toNat : Int)

/-- the translated loop run over one enumeration of the map's entries, then the post-checks -/
def genParse (kvs : List (List UInt8 × List UInt8)) : Funcs.ParseSt :=
  Funcs.parsePost (kvs.foldl (fun st kv => Funcs.parseField unmStrM unmErrM fbM st kv.1 kv.2) {})

def fieldErrs (l : List (List UInt8 × List UInt8)) : List Code :=
  (scanString (lookupLast kJsonrpc l)).2 ++ (scanID (lookupLast kId l)).2 ++
  (scanString (lookupLast kMethod l)).2 ++ (scanParams (lookupLast kParams l)).2 ++
  (scanError (lookupLast kError l)).2

def unknownKey (kv : List UInt8 × List UInt8) : Bool := !knownKeys.contains kv.1

/-- what the loop has established after the entries `l` -/
structure Inv (l : List (List UInt8 × List UInt8)) (st : Funcs.ParseSt) : Prop where
  v : st.v = (scanString (lookupLast kJsonrpc l)).1
  id : st.id = (scanID (lookupLast kId l)).1
  m : st.m = (scanString (lookupLast kMethod l)).1
  p : st.p = (scanParams (lookupLast kParams l)).1
  e : st.e.isSome = (scanError (lookupLast kError l)).1
  r : st.r = (lookupLast kResult l).getD []
  extra : (st.extra ≠ []) ↔ l.any unknownKey = true
  errNone : st.err = none → fieldErrs l = []
  errSome : ∀ c, st.err = some c → c ∈ fieldErrs l

theorem lookupLast_snoc (k k' v : List UInt8) (l : List (List UInt8 × List UInt8)) :
    lookupLast k (l ++ [(k', v)]) = if k' = k then some v else lookupLast k l := by
  induction l with
  | nil => simp [lookupLast]
  | cons a l ih =>
    obtain ⟨ka, va⟩ := a
    simp only [List.cons_append, lookupLast, ih]
    by_cases h : k' = k <;> simp [h]

theorem lookupLast_isSome_iff (k : List UInt8) (l : List (List UInt8 × List UInt8)) :
    (lookupLast k l).isSome = true ↔ k ∈ l.map Prod.fst := by
  induction l with
  | nil => simp [lookupLast]
  | cons a l ih =>
    rw [List.map_cons, List.mem_cons, ← ih, lookupLast]
    cases lookupLast k l
    · simpa using eq_comm
    · simp

theorem lookupLast_none_of_not_mem (k : List UInt8) (l : List (List UInt8 × List UInt8))
    (h : k ∉ l.map Prod.fst) : lookupLast k l = none :=
  Option.not_isSome_iff_eq_none.mp (mt (lookupLast_isSome_iff k l).mp h)

theorem fbM_eq (b : List UInt8) : fbM b = Funcs.firstByte b Jrpc.Json.trimSpace := (firstByte_matches b).symm

theorem Inv_init : Inv [] {} := by
  constructor <;> simp [lookupLast, scanString, scanID, scanParams, scanError, fieldErrs]

/-- `isValidID` of json.go = the model's -/
theorem isValidID_matches (v : List UInt8) : Funcs.isValidID v = Wire.isValidID v := by
  unfold Funcs.isValidID Wire.isValidID
  rw [isNull_matches]
  cases v with
  | nil => simp [GoLen.len]
  | cons c r =>
    have hlen : ((GoLen.len (c :: r) : Int) == 0) = false := by
      simp [GoLen.len]; omega
    simp only [hlen, GoIdx.idx, List.getD_cons_zero, toNat_beq, ge_iff_le, decide_toNat_le, decide_le_toNat, Nat.reduceLT]
    cases Wire.isNull (c :: r) <;> simp [Bool.beq_eq_decide_eq]

abbrev pf := Funcs.parseField unmStrM unmErrM fbM

/-- `jmessage.fail`: the first error is kept -/
theorem psFail_or (st : Funcs.ParseSt) (c : Int) : Funcs.psFail st c = { st with err := st.err.or (some c) } := by
  obtain ⟨_, _, _, _, _, _, _, err⟩ := st
  cases err <;> rfl

theorem scanString_none : scanString none = ([], []) := rfl
theorem scanID_none : scanID none = ([], []) := rfl
theorem scanParams_none : scanParams none = ([], []) := rfl
theorem scanError_none : scanError none = (false, []) := rfl

/-- the model's scan of a string member is `json.Unmarshal` into a field that still holds "" -/
theorem scanString_some (v : List UInt8) :
    scanString (some v) = ((unmStrM v []).1, if (unmStrM v []).2 then [ParseError] else []) := by
  unfold unmStrM scanString decodeString
  cases hn : Wire.isNull v <;> cases hu : Jrpc.Json.unquote v <;> simp [hn, hu]

theorem scanError_some (v : List UInt8) (o : Option Unit) :
    scanError (some v) = ((unmErrM v o).1.isSome, if (unmErrM v o).2 then [ParseError] else []) := by
  unfold unmErrM scanError
  cases h1 : errorValueOK v <;> cases h2 : Wire.isNull v <;> simp [h1, h2]

theorem fbM_nil : fbM [] = 0 := by decide

/-- (`st.p = []`: each key occurs once in a map, so the field still has its reset value when the
`params` member is met - a refactoring may rely on that) -/
theorem pf_params (st : Funcs.ParseSt) (v : List UInt8) (hp0 : st.p = []) :
    pf st kParams v =
      (let st' := if !Funcs.isNull v then { st with p := v } else st
       if (fbM st'.p != 0 && fbM st'.p != 91) && fbM st'.p != 123 then Funcs.psFail st' Consts.InvalidRequest else st') := by
  unfold pf Funcs.parseField
  -- the key is a constant: its comparisons with the literals of the translated `switch` are decided, in whatever
  -- order and nesting the cases come, and what is left is the branch of that key
  simp +decide only [↓reduceIte]
  all_goals (cases h : Funcs.isNull v <;> simp [h, hp0, fbM_nil])

theorem fieldErrs_single (k v : List UInt8) :
    fieldErrs [(k, v)] =
      (if k = kJsonrpc then (scanString (some v)).2 else []) ++ (if k = kId then (scanID (some v)).2 else []) ++
      (if k = kMethod then (scanString (some v)).2 else []) ++ (if k = kParams then (scanParams (some v)).2 else []) ++
      (if k = kError then (scanError (some v)).2 else []) := by
  simp only [fieldErrs, lookupLast, apply_ite scanString, apply_ite scanID, apply_ite scanParams, apply_ite scanError,
    apply_ite Prod.snd, scanString_none, scanID_none, scanParams_none, scanError_none]

/-- **the translated loop body in the model's terms**: a member whose field still has its reset
value stores the model's scan of the value in that field, leaves the others alone, and reports the
scan's error unless an earlier one is held -/
theorem pf_spec (st : Funcs.ParseSt) (k v : List UInt8)
    (hv : k = kJsonrpc → st.v = []) (hid : k = kId → st.id = []) (hm : k = kMethod → st.m = [])
    (hp : k = kParams → st.p = []) :
    pf st k v =
      { v := if k = kJsonrpc then (scanString (some v)).1 else st.v
        id := if k = kId then (scanID (some v)).1 else st.id
        m := if k = kMethod then (scanString (some v)).1 else st.m
        p := if k = kParams then (scanParams (some v)).1 else st.p
        e := if k = kError then (if (scanError (some v)).1 then some () else none) else st.e
        r := if k = kResult then v else st.r
        extra := if knownKeys.contains k then st.extra else st.extra ++ [k]
        err := st.err.or (fieldErrs [(k, v)]).head? } := by
  rw [fieldErrs_single]
  have hP : Consts.ParseError = Wire.ParseError := rfl
  have hI : Consts.InvalidRequest = Wire.InvalidRequest := rfl
  obtain ⟨sv, sid, sm, sp, se, sr, sx, serr⟩ := st
  by_cases k1 : k = kJsonrpc
  · subst k1
    obtain rfl : sv = [] := hv rfl
    unfold pf Funcs.parseField
    simp +decide only [↓reduceIte, scanString_some]
    cases (unmStrM v []).2 <;> simp +decide [psFail_or, hP]
  by_cases k2 : k = kId
  · subst k2
    obtain rfl : sid = [] := hid rfl
    unfold pf Funcs.parseField
    simp +decide only [↓reduceIte, isValidID_matches, scanID]
    cases Wire.isValidID v <;> simp +decide [psFail_or, hI]
  by_cases k3 : k = kMethod
  · subst k3
    obtain rfl : sm = [] := hm rfl
    unfold pf Funcs.parseField
    simp +decide only [↓reduceIte, scanString_some]
    cases (unmStrM v []).2 <;> simp +decide [psFail_or, hP]
  by_cases k4 : k = kParams
  · subst k4
    obtain rfl : sp = [] := hp rfl
    rw [pf_params _ _ rfl, isNull_matches]
    cases hn : Wire.isNull v <;> simp +decide [psFail_or, scanParams, hn, fbM, bne, toNat_beq, hI]
    split <;> simp
  by_cases k5 : k = kError
  · subst k5
    unfold pf Funcs.parseField
    simp +decide only [↓reduceIte, scanError_some v se]
    cases (unmErrM v se).2 <;> cases (unmErrM v se).1 <;> simp +decide [psFail_or, hP]
  by_cases k6 : k = kResult
  · subst k6
    unfold pf Funcs.parseField
    simp +decide
  -- an unknown key: every comparison fails
  unfold pf Funcs.parseField
  simp only [kJsonrpc, kId, kMethod, kParams, kError, kResult] at k1 k2 k3 k4 k5 k6
  simp [k1, k2, k3, k4, k5, k6, knownKeys, kJsonrpc, kId, kMethod, kParams, kError, kResult]

theorem any_snoc_unknown (l : List (List UInt8 × List UInt8)) (k v : List UInt8) :
    (l ++ [(k, v)]).any unknownKey = (l.any unknownKey || !knownKeys.contains k) := by
  simp [unknownKey]

theorem mem_scan_snoc {α} (f : Option (List UInt8) → α × List Code) (hf : (f none).2 = []) {l : List (List UInt8 × List UInt8)}
    {k : List UInt8} (hk : lookupLast k l = none) (v kX : List UInt8) (c : Code) :
    c ∈ (f (lookupLast kX (l ++ [(k, v)]))).2 ↔ c ∈ (f (lookupLast kX l)).2 ∨ c ∈ (f (lookupLast kX [(k, v)])).2 := by
  rw [lookupLast_snoc]
  by_cases h : k = kX
  · subst h
    simp [hk, hf, lookupLast]
  · simp [h, hf, lookupLast]

theorem mem_fieldErrs_snoc {l : List (List UInt8 × List UInt8)} {k : List UInt8} (hk : lookupLast k l = none) (v : List UInt8)
    (c : Code) : c ∈ fieldErrs (l ++ [(k, v)]) ↔ c ∈ fieldErrs l ∨ c ∈ fieldErrs [(k, v)] := by
  simp only [fieldErrs, List.mem_append, mem_scan_snoc scanString rfl hk, mem_scan_snoc scanID rfl hk,
    mem_scan_snoc scanParams rfl hk, mem_scan_snoc scanError rfl hk]
  -- the same ten memberships, grouped by field on the left and by list on the right
  grind

theorem fieldErrs_snoc_eq_nil {l : List (List UInt8 × List UInt8)} {k : List UInt8} (hk : lookupLast k l = none) (v : List UInt8) :
    fieldErrs (l ++ [(k, v)]) = [] ↔ fieldErrs l = [] ∧ fieldErrs [(k, v)] = [] := by
  simp only [List.eq_nil_iff_forall_not_mem, mem_fieldErrs_snoc hk, not_or, forall_and]

/-- one clause of `Inv` about the field of key `kX` after a member `(k, v)`, from what `pf_spec` says of that field -/
theorem field_snoc {α} (f : Option (List UInt8) → α) {a : α} {l : List (List UInt8 × List UInt8)} {k : List UInt8}
    (kX v : List UInt8) (h : a = f (lookupLast kX l)) :
    (if k = kX then f (some v) else a) = f (lookupLast kX (l ++ [(k, v)])) := by
  rw [lookupLast_snoc, h]
  split <;> rfl

theorem Inv_step (l : List (List UInt8 × List UInt8)) (st : Funcs.ParseSt) (k v : List UInt8)
    (h : Inv l st) (hk : k ∉ l.map Prod.fst) : Inv (l ++ [(k, v)]) (pf st k v) := by
  have hnone := lookupLast_none_of_not_mem k l hk
  rw [pf_spec st k v (fun e => by subst e; rw [h.v, hnone]; rfl) (fun e => by subst e; rw [h.id, hnone]; rfl)
    (fun e => by subst e; rw [h.m, hnone]; rfl) (fun e => by subst e; rw [h.p, hnone]; rfl)]
  constructor
  · exact field_snoc (fun o => (scanString o).1) kJsonrpc v h.v
  · exact field_snoc (fun o => (scanID o).1) kId v h.id
  · exact field_snoc (fun o => (scanString o).1) kMethod v h.m
  · exact field_snoc (fun o => (scanParams o).1) kParams v h.p
  · rw [apply_ite Option.isSome]
    refine Eq.trans ?_ (field_snoc (fun o => (scanError o).1) kError v h.e)
    cases (scanError (some v)).1 <;> rfl
  · exact field_snoc (fun o => o.getD []) kResult v h.r
  · rw [any_snoc_unknown]
    cases knownKeys.contains k <;> simp [h.extra]
  · intro he
    rw [Option.or_eq_none_iff, List.head?_eq_none_iff] at he
    exact (fieldErrs_snoc_eq_nil hnone v).mpr ⟨h.errNone he.1, he.2⟩
  · intro c hc
    rw [mem_fieldErrs_snoc hnone]
    rcases Option.or_eq_some_iff.mp hc with h1 | ⟨_, h1⟩
    · exact Or.inl (h.errSome c h1)
    · exact Or.inr (List.mem_of_mem_head? h1)

/-- **the statements after the loop in the model's terms**: the fields stay, and the first failing
post-check is reported unless an error is already held -/
theorem parsePost_eq (st : Funcs.ParseSt) :
    Funcs.parsePost st =
      { st with err := st.err.or (postChecks st.v st.m st.e.isSome st.r (decide (st.extra ≠ []))).head? } := by
  have hI : Consts.InvalidRequest = Wire.InvalidRequest := rfl
  have hver : Wire.version = [50, 46, 48] := rfl
  obtain ⟨sv, sid, sm, sp, se, sr, sx, serr⟩ := st
  unfold Funcs.parsePost postChecks
  cases serr with
  | some c => simp [GoNil.isNil, psFail_or]
  | none =>
    by_cases hv : sv = [50, 46, 48]
    · by_cases hx : sx = [] <;> cases sm <;> cases se <;> cases sr <;>
        simp [GoNil.isNil, psFail_or, version_matches, len_eq_zero, len_pos, hver, hv, hx, hI]  -- `len_pos`: `len(extra) > 0`
    · simp [GoNil.isNil, psFail_or, version_matches, hver, hv, hI]

theorem Inv_fold (rest l : List (List UInt8 × List UInt8)) (st : Funcs.ParseSt) (h : Inv l st)
    (hnd : ((l ++ rest).map Prod.fst).Nodup) :
    Inv (l ++ rest) (rest.foldl (fun st kv => pf st kv.1 kv.2) st) := by
  induction rest generalizing l st with
  | nil => simpa using h
  | cons kv rest ih =>
    obtain ⟨k, v⟩ := kv
    have hk : k ∉ l.map Prod.fst := by
      intro hmem
      rw [List.map_append, List.nodup_append] at hnd
      exact hnd.2.2 k hmem k (by simp) rfl
    have := ih (l ++ [(k, v)]) (pf st k v) (Inv_step l st k v h hk) (by simpa using hnd)
    simpa using this

/-- what the loop and the post-checks leave behind, against the model -/
structure Agrees (st : Funcs.ParseSt) (j : Msg) : Prop where
  v : st.v = j.v
  id : st.id = j.id
  m : st.m = j.m
  p : st.p = j.p
  e : st.e.isSome = j.hasE
  r : st.r = j.r
  extra : (st.extra ≠ []) ↔ j.extra = true
  errNone : st.err = none ↔ j.errs = []
  errSome : ∀ c, st.err = some c → c ∈ j.errs

theorem parsePost_agrees (l : List (List UInt8 × List UInt8)) (st : Funcs.ParseSt) (h : Inv l st) :
    Agrees (Funcs.parsePost st) (parseObject l) := by
  have hx : decide (st.extra ≠ []) = l.any unknownKey := by
    rw [Bool.eq_iff_iff, decide_eq_true_eq]
    exact h.extra
  have herrs : (parseObject l).errs = if fieldErrs l != [] then fieldErrs l else
      postChecks st.v st.m st.e.isSome st.r (decide (st.extra ≠ [])) := by
    rw [hx, h.v, h.m, h.e, h.r]
    rfl
  rw [parsePost_eq]
  refine ⟨h.v, h.id, h.m, h.p, h.e, h.r, h.extra, ?_, ?_⟩
  · rw [herrs]
    cases hE : st.err with
    | none => simp [h.errNone hE, List.head?_eq_none_iff]
    | some c => simp [List.ne_nil_of_mem (h.errSome c hE)]
  · rw [herrs]
    cases hE : st.err with
    | none =>
      intro c hc
      simpa [h.errNone hE] using List.mem_of_mem_head? hc
    | some c' =>
      intro c hc
      obtain rfl : c' = c := by simpa using hc
      simpa [List.ne_nil_of_mem (h.errSome c' hE)] using h.errSome c' hE

theorem any_unknown_iff (l : List (List UInt8 × List UInt8)) :
    l.any unknownKey = true ↔ ∃ k, (lookupLast k l).isSome = true ∧ knownKeys.contains k = false := by
  simp only [List.any_eq_true, lookupLast_isSome_iff, List.mem_map, unknownKey, Bool.not_eq_true']
  constructor
  · rintro ⟨kv, hm, hk⟩
    exact ⟨kv.1, ⟨kv, hm, rfl⟩, hk⟩
  · rintro ⟨_, ⟨kv, hm, rfl⟩, hk⟩
    exact ⟨kv, hm, hk⟩

theorem parseObject_congr (f g : List (List UInt8 × List UInt8))
    (h : ∀ k, lookupLast k f = lookupLast k g) : parseObject f = parseObject g := by
  have hx : (f.any fun (k, _) => !knownKeys.contains k) = (g.any fun (k, _) => !knownKeys.contains k) := by
    show f.any unknownKey = g.any unknownKey
    rw [Bool.eq_iff_iff, any_unknown_iff, any_unknown_iff]
    simp only [h]
  unfold parseObject
  simp only [h, hx]

/-- **`jmessage.parseJSON` of the current source, for every map iteration order.** `fields` are the
members of the JSON object as written (duplicates kept); `kvs` is *any* enumeration of the Go map
`json.Unmarshal` builds from them (distinct keys, each with the value of its last occurrence). Running
the translated loop body over `kvs` and then the translated post-checks yields the model's
message: same version, id, method, params, error-presence, result, unknown-key flag; no deferred
error iff the model admits none; and a deferred error's code is one the model admits. -/
theorem parseJSON_every_order (fields kvs : List (List UInt8 × List UInt8))
    (hnd : (kvs.map Prod.fst).Nodup) (hmap : ∀ k, lookupLast k kvs = lookupLast k fields) :
    Agrees (genParse kvs) (parseObject fields) := by
  rw [← parseObject_congr kvs fields hmap]
  have := Inv_fold kvs [] {} Inv_init (by simpa using hnd)
  exact parsePost_agrees kvs _ (by simpa using this)

/-- the loop starts from a reset message -/
theorem parseJSON_resets : Funcs.parseJSONResets = true := by decide

/-- non-vacuity: a request with id, params and an unknown key, enumerated in two different orders -/
example :
    let a : List (List UInt8 × List UInt8) := [(kJsonrpc, [34, 50, 46, 48, 34]), (kId, [55]), (kMethod, [34, 120, 34]), ([122], [49])]
    (genParse a).err = some (-32600) ∧ (genParse a.reverse).err = some (-32600) ∧ (genParse a).m = [120] ∧
      (parseObject a).errs = [-32600] := by decide +kernel

/-- non-vacuity: two field errors; which one is kept depends on the order, both are admitted by the model -/
example :
    let a : List (List UInt8 × List UInt8) := [(kJsonrpc, [49]), (kId, [116, 114, 117, 101])]
    (genParse a).err = some (-32700) ∧ (genParse a.reverse).err = some (-32600) ∧
      (parseObject a).errs = [-32700, -32600] := by decide +kernel

/-- **`jmessage.toJSON` of the current source, as a whole**, with `json.Marshal` of the method name
= `quote`, for any error type and marshaller: the error value is marshalled only for a message
with neither method nor result, and the outcome of that is the only way to fail -/
theorem toJSON_eq {E : Type} (id m p r : List UInt8) (e : Option E) (me : Option E → Option (List UInt8)) :
    Funcs.toJSON id m p r e (fun s => some (Jrpc.Json.quote s)) me =
      if m = [] ∧ r = [] ∧ e.isSome then (me e).map fun x => Wire.toJSON { id := id, m := m, p := p, r := r, e := some x }
      else some (Wire.toJSON { id := id, m := m, p := p, r := r }) := by
  unfold Funcs.toJSON Wire.toJSON
  -- `simp` selects the branch on both sides; `rfl` then evaluates the literals (`prefixLit`, … against the
  -- translated byte lists, in however many pieces the source writes them)
  by_cases hm : m = []
  · by_cases hr : r = []
    · cases e with
      | none => by_cases hid : id = [] <;> simp [hm, hr, hid, GoNil.isNil, len_eq_zero] <;> rfl
      | some x => by_cases hid : id = [] <;> cases me (some x) <;> simp [hm, hr, hid, GoNil.isNil, len_eq_zero] <;> rfl
    · by_cases hid : id = [] <;> simp [hm, hr, hid, len_eq_zero] <;> rfl
  · by_cases hp : p = [] <;> by_cases hid : id = [] <;> simp [hm, hp, hid, len_eq_zero] <;> rfl

/-- `jmessage.toJSON` of the current source, as a whole, is the model's encoder: for every message,
with `json.Marshal` of the method name = `quote` and the error object already marshalled -/
theorem toJSON_matches (j : OutMsg) :
    Funcs.toJSON j.id j.m j.p j.r j.e (fun s => some (Jrpc.Json.quote s)) (fun e => e) = some (Wire.toJSON j) := by
  rw [toJSON_eq]
  obtain ⟨id, m, p, r, e, b⟩ := j
  unfold Wire.toJSON
  by_cases hm : m = [] <;> by_cases hr : r = [] <;> cases e <;> simp [hm, hr]

/-- an encoder failure can only come from `json.Marshal` of the error value -/
theorem toJSON_fails_only_on_error {E : Type} (id m p r : List UInt8) (e : Option E) (me : Option E → Option (List UInt8))
    (h : Funcs.toJSON id m p r e (fun s => some (Jrpc.Json.quote s)) me = none) : me e = none ∧ e.isSome = true := by
  rw [toJSON_eq] at h
  by_cases hc : m = [] ∧ r = [] ∧ e.isSome = true
  · rw [if_pos hc] at h
    exact ⟨Option.map_eq_none_iff.mp h, hc.2.2⟩
  · rw [if_neg hc] at h
    cases h

end Jrpc.Tie.Parse
