import Jrpc.Gen.Consts
import Jrpc.Gen.Funcs
import Jrpc.Model.Wire
import Jrpc.Tie.Bytes
/-! # Tie obligations for C02 / C01 / C13: the small predicates and constants of json.go,
server.go and error.go in the *current source* are the ones the wire model uses. -/
namespace Jrpc.Tie.C02
open Jrpc.Gen Jrpc.GoPrelude Jrpc.Wire Jrpc.Tie.Bytes

/-- the length test and four byte tests, as json.go has written `isNull` -/
theorem isNull_by_bytes (v : List UInt8) :
    ((((((GoLen.len v) == 4) && ((GoIdx.idx v 0) == 110)) && ((GoIdx.idx v 1) == 117)) && ((GoIdx.idx v 2) == 108)) && ((GoIdx.idx v 3) == 108)) = Wire.isNull v := by
  rw [Bool.eq_iff_iff]
  simp only [Wire.isNull, GoLen.len, GoIdx.idx, toNat_beq, Nat.reduceLT, Bool.and_eq_true, beq_iff_eq, decide_eq_true_eq,
    and_assoc]
  rcases v with _ | ⟨a, _ | ⟨b, _ | ⟨c, _ | ⟨d, _ | ⟨e, r⟩⟩⟩⟩⟩
  case cons.cons.cons.cons.cons =>
    simp
    omega
  all_goals simp

/-- `isNull` of json.go = the model's `isNull` - whether it is written as those byte tests or as
a comparison with the text `null` -/
theorem isNull_matches (v : List UInt8) : Funcs.isNull v = Wire.isNull v := by
  first
  | exact isNull_by_bytes v
  | (unfold Funcs.isNull Wire.isNull; apply Bool.eq_iff_iff.mpr; simp; done)

/-- `fixID` of json.go = the model's -/
theorem fixID_matches (v : List UInt8) : Funcs.fixID v = Wire.fixID v := by
  unfold Funcs.fixID Wire.fixID
  rw [isNull_matches]
  by_cases h : Wire.isNull v = true <;> simp [h]

/-- `isValidVersion` compares with the constant "2.0" -/
theorem version_matches (v : List UInt8) : Funcs.isValidVersion v = (v == Wire.version) := rfl

/-- `isRequestOrNotification` / `isNotification` of json.go = the model's -/
theorem isRequest_matches (j : Msg) :
    Funcs.isRequestOrNotification j.m (if j.hasE then some () else none) j.r = j.isRequestOrNotification := by
  unfold Funcs.isRequestOrNotification Msg.isRequestOrNotification
  cases j.hasE <;> simp [GoNil.isNil]

theorem isNotification_matches (j : Msg) :
    Funcs.isNotification j.id j.m (if j.hasE then some () else none) j.r = j.isNotification := by
  unfold Funcs.isNotification Msg.isNotification
  rw [isRequest_matches, fixID_matches]
  simp [GoNil.isNil]

/-- `tasks.responses` skips an id-less member unless its code is −32700 / −32600 -/
theorem responses_skip_matches (c : Int) :
    Funcs.responsesSkip c = !(c == Wire.ParseError || c == Wire.InvalidRequest) := by
  unfold Funcs.responsesSkip
  have h1 : Consts.ParseError = Wire.ParseError := rfl
  have h2 : Consts.InvalidRequest = Wire.InvalidRequest := rfl
  have hd : Wire.ParseError ≠ Wire.InvalidRequest := by decide
  by_cases a : c = Wire.ParseError <;> by_cases b : c = Wire.InvalidRequest <;> simp_all [bne, hd, hd.symm]

/-- `filterBatchLocked` drops exactly the unmatched reply-shaped members on a push server -/
theorem drop_matches (cfg : Cfg) (j : Msg) (hnr : j.isRequestOrNotification = false) :
    Funcs.dropsUnmatchedReply cfg.allowPush j.m (if j.hasE then some () else none) j.r = !keepMember cfg j := by
  unfold Funcs.dropsUnmatchedReply keepMember
  rw [hnr]
  cases j.hasE <;> cases cfg.allowPush <;> cases hr : j.r <;> simp [GoNil.isNil]

/-- a single non-batch message is sent bare, anything else as an array -/
theorem toJSON_single_matches (n : Int) (b : Bool) : Funcs.toJSONSingle n b = (n == 1 && !b) := by
  unfold Funcs.toJSONSingle
  by_cases h : n = 1 <;> cases b <;> simp [h, bne]

/-- the protocol error sentinels carry the codes the model answers with -/
theorem sentinel_codes :
    Consts.errInvalidRequest.1 = Wire.ParseError ∧ Consts.errEmptyBatch.1 = Wire.InvalidRequest ∧
    Consts.errEmptyMethod.1 = Wire.InvalidRequest ∧ Consts.errDuplicateID.1 = Wire.InvalidRequest ∧
    Consts.errNoSuchMethod.1 = Wire.MethodNotFound := by decide

/-- an error object always has `code` and `message` members -/
theorem error_has_message : Consts.errorTags.take 2 = [("Code", "code", false), ("Message", "message", false)] := by decide

/-! ### firstByte (decides batch vs single, and the shape of params) -/

theorem trimRight_cons (x : UInt8) (xs : List UInt8) (hx : Jrpc.Json.isAsciiSpace x = false) :
    ∃ ys, Jrpc.Json.trimRight (x :: xs) = x :: ys := by
  unfold Jrpc.Json.trimRight
  rw [List.reverse_cons, List.dropWhile_append]
  split
  · exact ⟨[], by simp [List.dropWhile, hx]⟩
  · exact ⟨(xs.reverse.dropWhile Jrpc.Json.isAsciiSpace).reverse, by simp⟩

/-- `firstByte` of json.go (translated; `bytes.TrimSpace` = the model's `trimSpace`) is the model's `firstByte` -/
theorem firstByte_matches (b : List UInt8) :
    Funcs.firstByte b Jrpc.Json.trimSpace = ((Jrpc.Json.firstByte b).toNat : Int) := by
  unfold Funcs.firstByte Jrpc.Json.firstByte Jrpc.Json.trimSpace
  cases ht : Jrpc.Json.trimLeft b with
  | nil => simp [Jrpc.Json.trimRight, GoLen.len]
  | cons x xs =>
    have hx : Jrpc.Json.isAsciiSpace x = false := by
      have := List.head?_dropWhile_not Jrpc.Json.isAsciiSpace b
      rwa [show b.dropWhile Jrpc.Json.isAsciiSpace = x :: xs from ht] at this
    obtain ⟨ys, hy⟩ := trimRight_cons x xs hx
    simp only [hy, GoLen.len, GoIdx.idx, List.length_cons, List.getD_cons_zero]
    have : ¬ ((ys.length : Int) + 1 = 0) := by omega
    simp [this]

end Jrpc.Tie.C02
