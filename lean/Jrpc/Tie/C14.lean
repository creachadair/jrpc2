import Jrpc.Gen.Consts
import Jrpc.Gen.Funcs
import Jrpc.Model.Errors
/-! # Tie obligations for C14: the constants and small functions of the *current source*
(regenerated into `Jrpc.Gen` on every run) are the ones the model and its theorems use. -/
namespace Jrpc.Tie.C14
open Jrpc.Gen Jrpc.GoPrelude Jrpc.Errors

/-- the nine code constants of code.go have the model's values -/
theorem codes_match :
    Consts.ParseError = ParseError ∧ Consts.InvalidRequest = InvalidRequest ∧
    Consts.MethodNotFound = MethodNotFound ∧ Consts.InvalidParams = InvalidParams ∧
    Consts.InternalError = InternalError ∧ Consts.NoError = NoError ∧
    Consts.SystemError = SystemError ∧ Consts.Cancelled = Cancelled ∧
    Consts.DeadlineExceeded = DeadlineExceeded := by decide

/-- and are pairwise distinct in the source -/
theorem source_codes_distinct :
    [Consts.ParseError, Consts.InvalidRequest, Consts.MethodNotFound, Consts.InvalidParams,
     Consts.InternalError, Consts.NoError, Consts.SystemError, Consts.Cancelled,
     Consts.DeadlineExceeded].Nodup := by decide

/-- `filterError` of base.go is the case split of the model's `fromWire` -/
theorem filterError_matches (w : WireErr) :
    (Funcs.filterError w.code = .canceled → fromWire w = .canceled) ∧
    (Funcs.filterError w.code = .deadline → fromWire w = .deadline) ∧
    (Funcs.filterError w.code = .same → fromWire w = .jerr w.code w.msg w.data) := by
  unfold Funcs.filterError fromWire
  have h1 : Consts.Cancelled = Cancelled := rfl
  have h2 : Consts.DeadlineExceeded = DeadlineExceeded := rfl
  rw [h1, h2]
  by_cases a : w.code = Cancelled
  · simp [a]
  · by_cases b : w.code = DeadlineExceeded
    · have hne : DeadlineExceeded ≠ Cancelled := by decide
      simp [b, hne]
    · simp [a, b]

/-- `Code.Err` of code.go is the model's `codeErr` (nil iff NoError; otherwise a coder for c; the default
`.canceled` of `getD` is an error without a coder, so it cannot make the last clause true) -/
theorem codeErr_matches (c : Int) :
    (Funcs.codeErr c = none ↔ codeErr c = none) ∧
    (∀ d, Funcs.codeErr c = some d → d = c ∧ firstCoder ((codeErr c).getD .canceled) = some c) := by
  unfold Funcs.codeErr codeErr
  have h : Consts.NoError = NoError := rfl
  rw [h]
  by_cases a : c = NoError
  · simp [a]
  · simp [a, firstCoder]

/-- the JSON object of an error always has "code" and "message" and omits empty "data" -/
theorem error_tags :
    Consts.errorTags = [("Code", "code", false), ("Message", "message", false), ("Data", "data", true)] := by
  decide

end Jrpc.Tie.C14
