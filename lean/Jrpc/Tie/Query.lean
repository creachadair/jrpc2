import Jrpc.Gen.Funcs
import Jrpc.Model.Http
import Jrpc.Tie.Bytes
import Jrpc.Tie.C18
/-! # Tie obligations for the value typing of `jhttp.ParseQuery` (C19)

`go2lean` translates, from the current jhttp/getter.go: `isDecimal` as a whole (its byte loop as
a fold with an early exit), `parseNumber` as a whole, the quote tests of `parseJSONString` and
`parseQuoted64`, and the order of the cascade in `ParseQuery`. They are proved equal to what the
model's `classify` does, for every value. -/
namespace Jrpc.Tie.Query
open Jrpc.Gen Jrpc.GoPrelude Jrpc.Http Jrpc.Tie.Bytes
open Jrpc.Json (Bytes isDigit)

/-- one round of the loop of `isDecimal`, as the model reads it -/
def stepM (st : Option (Int × Int)) (c : UInt8) : Option (Int × Int) :=
  match st with
  | none => none
  | some (d, t) => if isDigit c then some (d + 1, t) else if c == 46 then some (d, t + 1) else none

theorem fold_none (l : Bytes) : l.foldl stepM none = none := by
  induction l with
  | nil => rfl
  | cons c l ih => simpa [List.foldl, stepM] using ih

theorem fold_some (l : Bytes) (d t : Int) :
    l.foldl stepM (some (d, t)) =
      if l.all (fun c => isDigit c || c == 46) then
        some (d + ((l.filter isDigit).length : Int), t + ((l.filter (· == 46)).length : Int))
      else none := by
  induction l generalizing d t with
  | nil => simp
  | cons c l ih =>
    simp only [List.foldl, stepM]
    by_cases h46 : c = 46
    · subst h46
      simp only [show isDigit 46 = false from rfl, Bool.false_eq_true, if_false, beq_self_eq_true, if_true, ih,
        List.all_cons, Bool.or_true, Bool.true_and, List.filter_cons, List.length_cons]
      split <;> simp <;> omega
    · have hb : (c == 46) = false := by simpa using h46
      by_cases hd : isDigit c = true
      · simp only [hd, if_true, ih, List.all_cons, Bool.true_or, Bool.true_and, List.filter_cons, hb,
          Bool.false_eq_true, if_false, List.length_cons]
        split <;> simp <;> omega
      · simp [hd, hb, fold_none]

theorem digitByte (c : UInt8) :
    ((decide ((c.toNat : Int) ≥ 48)) && (decide ((c.toNat : Int) ≤ 57))) = isDigit c := by
  simp only [isDigit, ge_iff_le, decide_toNat_le, decide_le_toNat, Nat.reduceLT]

/-- stripping one leading sign, as getter.go writes it, is the model's `signSplit` -/
theorem strip_matches (s : Bytes) :
    (if ((s != ([] : List UInt8)) && ((((GoIdx.idx s 0) == 43) || ((GoIdx.idx s 0) == 45)))) then (s.drop 1) else s) =
      (Jrpc.Framing.signSplit s).2 := by
  cases s with
  | nil => rfl
  | cons c r =>
    simp only [GoIdx.idx, List.getD_cons_zero, toNat_beq, Nat.reduceLT]
    by_cases a : c = 43
    · subst a; rfl
    · by_cases b : c = 45
      · subst b; rfl
      · simp [a, b, Jrpc.Framing.signSplit]

theorem step_matches (st : Option (Int × Int)) (c : UInt8) : Funcs.isDecimalStep st c = stepM st c := by
  cases st with
  | none => rfl
  | some p =>
    obtain ⟨d, t⟩ := p
    simp only [Funcs.isDecimalStep, stepM, digitByte, toNat_beq, Nat.reduceLT]

/-- **`isDecimal` of the current source = the model's**, for every value -/
theorem isDecimal_matches (s : Bytes) : Funcs.isDecimal s = Http.isDecimal s := by
  have hstep : Funcs.isDecimalStep = stepM := funext fun st => funext (step_matches st)
  unfold Funcs.isDecimal Http.isDecimal
  simp only [strip_matches, hstep, fold_some]
  generalize (Jrpc.Framing.signSplit s).2 = body
  by_cases hall : body.all (fun c => isDigit c || c == 46) = true
  · simp only [hall, if_true, Bool.true_and]
    apply Bool.eq_iff_iff.mpr
    simp only [Bool.and_eq_true, decide_eq_true_eq]
    omega
  · simp [hall]

/-- **`parseNumber` of the current source** is the two number lines of the model's cascade -/
theorem parseNumber_matches (s : Bytes) (intOK floatOK dec : Bytes → Bool) :
    Funcs.parseNumber s intOK floatOK dec =
      (if intOK s then .int else if dec s && floatOK s then .float else .none) := by
  unfold Funcs.parseNumber
  cases intOK s <;> cases dec s <;> cases floatOK s <;> simp

/-- the quote tests of `parseJSONString` / `parseQuoted64` are the ones in the model's `classify` -/
theorem jsonStringQuoted_matches (s : Bytes) :
    Funcs.jsonStringQuoted s = (decide (s.length ≥ 2) && s.head? == some 34 && s.getLast? == some 34) := by
  simp only [Funcs.jsonStringQuoted, idx_beq, last_beq, len_ge, Nat.reduceLT, List.head?_eq_getElem?]
theorem jsonStringHalf_matches (s : Bytes) :
    Funcs.jsonStringHalf s = (decide (s ≠ []) && (s.head? == some 34 || s.getLast? == some 34)) := by
  simp only [Funcs.jsonStringHalf, idx_beq, last_beq, Nat.reduceLT, List.head?_eq_getElem?]
  cases s <;> rfl
theorem quoted64Quoted_matches (s : Bytes) :
    Funcs.quoted64Quoted s = (decide (s.length ≥ 2) && s.head? == some 39 && s.getLast? == some 39) := by
  simp only [Funcs.quoted64Quoted, idx_beq, last_beq, len_ge, Nat.reduceLT, List.head?_eq_getElem?]
theorem quoted64Half_matches (s : Bytes) :
    Funcs.quoted64Half s = (decide (s ≠ []) && (s.head? == some 39 || s.getLast? == some 39)) := by
  simp only [Funcs.quoted64Half, idx_beq, last_beq, Nat.reduceLT, List.head?_eq_getElem?]
  cases s <;> rfl

/-- the cascade of `ParseQuery` consults the parsers in the order of the model's `classify`:
JSON string (refuse / accept), number, constant, base64 bytes (refuse / accept), literal -/
theorem cascade_order :
    Funcs.queryCascade = [("parseJSONString", "err"), ("parseJSONString", "ok"), ("parseNumber", "ok"),
      ("parseConstant", "ok"), ("parseQuoted64", "err"), ("parseQuoted64", "ok"), ("", "literal")] := by decide

/-- the model's cascade, written with the translated tests and the translated `parseNumber`: for
every value the source's decisions select the branch `classify` takes -/
theorem classify_by_source (floatFinite : Bytes → Bool) (s : Bytes) :
    classify floatFinite s =
      (if Funcs.jsonStringQuoted s then
        (if Jrpc.Json.valid s then (match Jrpc.Json.unquote s with | some d => .str d | none => .err) else .err)
       else if Funcs.jsonStringHalf s then .err
       else match Funcs.parseNumber s intOK floatFinite Funcs.isDecimal with
         | .int => .int
         | .float => .float
         | .none =>
           match Funcs.parseConstant s with
           | some .ctrue => .ctrue
           | some .cfalse => .cfalse
           | some .cnull => .cnull
           | none =>
             if Funcs.quoted64Quoted s then (if b64ok (trimEq ((s.drop 1).dropLast)) then .bytes64 else .err)
             else if Funcs.quoted64Half s then .err else .lit) := by
  rw [jsonStringQuoted_matches, jsonStringHalf_matches, quoted64Quoted_matches, quoted64Half_matches, parseNumber_matches,
    Jrpc.Tie.C18.parse_constant]
  have hd : Funcs.isDecimal = Http.isDecimal := funext isDecimal_matches
  rw [hd]
  unfold classify
  dsimp only
  by_cases h1 : (decide (s.length ≥ 2) && s.head? == some 34 && s.getLast? == some 34) = true
  · simp only [h1, if_true]
    rfl
  · simp only [h1, Bool.false_eq_true, if_false]
    by_cases h2 : (decide (s ≠ []) && (s.head? == some 34 || s.getLast? == some 34)) = true
    · simp only [h2, if_true]
    · simp only [h2, Bool.false_eq_true, if_false]
      cases hi : intOK s
      · cases hf : (Http.isDecimal s && floatFinite s)
        · simp only [Bool.false_eq_true, if_false]
          by_cases c1 : s = [116, 114, 117, 101]
          · simp [c1]
          · by_cases c2 : s = [102, 97, 108, 115, 101]
            · simp [c2]
            · by_cases c3 : s = [110, 117, 108, 108]
              · simp [c3]
              · simp only [c1, c2, c3, if_false]
        · simp only [if_true, Bool.false_eq_true, if_false]
      · simp only [if_true]

/-- non-vacuity: the translated loop accepts `-1.5`, `+7`, refuses `1e3`, `1.2.3`, `-`, `0x10` -/
example : Funcs.isDecimal [45, 49, 46, 53] = true ∧ Funcs.isDecimal [43, 55] = true ∧ Funcs.isDecimal [49, 101, 51] = false ∧
    Funcs.isDecimal [49, 46, 50, 46, 51] = false ∧ Funcs.isDecimal [45] = false ∧ Funcs.isDecimal [48, 120, 49, 48] = false := by decide +kernel

end Jrpc.Tie.Query
