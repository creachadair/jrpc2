import Jrpc.Gen.Funcs
import Jrpc.Model.Wire
/-! # Tie for C01: the reply entries `tasks.responses` builds

The only way the encoding of a reply batch can fail is an `*Error` whose data is not JSON
(`Props.C01.reply_batch_encodes` needs `responses` to drop such data). This file proves that the
condition under which server.go replaces the error by one without data is the model's. -/
namespace Jrpc.Tie.C01
open Jrpc.Wire Jrpc.Gen

/-- server.go `tasks.responses`: `if len(e.Data) != 0 && !json.Valid(e.Data) { e = &Error{Code, Message} }` -/
theorem drop_error_data_matches (e : ErrVal) :
    sanitizeError e =
      if Funcs.dropErrorData (e.data.length : Int) (Jrpc.Json.valid e.data) = true
      then { code := e.code, msg := e.msg } else e := by
  unfold sanitizeError Funcs.dropErrorData
  cases hv : Jrpc.Json.valid e.data <;> by_cases hl : e.data.length = 0 <;> simp [hl]

/-- the condition itself: data present and not valid JSON -/
theorem keeps_encodable (n : Int) (v : Bool) : Funcs.dropErrorData n v = (n != 0 && !v) := by
  unfold Funcs.dropErrorData
  by_cases h : n = 0 <;> cases v <;> simp [h, bne]

end Jrpc.Tie.C01
