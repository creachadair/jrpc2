import Jrpc.GoPrelude
/-! # Go `int`s that come from a byte or a length, compared with a constant

Translated code compares `int(b)` (here `(b.toNat : Int)`) with numerals; the models compare the
byte itself. These lemmas rewrite the former into the latter for every numeral below 256.
The numeral is `no_index`ed: `simp` indexes a concrete numeral as a literal and would never try a
pattern `OfNat.ofNat n`; the side condition `n < 256` is closed by `Nat.reduceLT`. -/
namespace Jrpc.Tie.Bytes
open Jrpc.GoPrelude

theorem toNat_lit (n : Nat) (h : n < 256) : (OfNat.ofNat n : UInt8).toNat = n := by
  show (UInt8.ofNat n).toNat = n
  rw [UInt8.toNat_ofNat']
  exact Nat.mod_eq_of_lt h

theorem toNat_eq (c : UInt8) (n : Nat) (h : n < 256) :
    ((c.toNat : Int) = (no_index (OfNat.ofNat n) : Int)) ↔ c = OfNat.ofNat n := by
  rw [← UInt8.toNat_inj, toNat_lit n h]
  exact Int.ofNat_inj

theorem toNat_beq (c : UInt8) (n : Nat) (h : n < 256) :
    ((c.toNat : Int) == (no_index (OfNat.ofNat n) : Int)) = (c == OfNat.ofNat n) := by
  rw [Bool.eq_iff_iff, beq_iff_eq, beq_iff_eq, toNat_eq c n h]

theorem decide_toNat_le (c : UInt8) (n : Nat) (h : n < 256) :
    decide ((c.toNat : Int) ≤ (no_index (OfNat.ofNat n) : Int)) = decide (c ≤ OfNat.ofNat n) := by
  rw [decide_eq_decide, UInt8.le_iff_toNat_le, toNat_lit n h]
  exact Int.ofNat_le

theorem decide_le_toNat (c : UInt8) (n : Nat) (h : n < 256) :
    decide ((no_index (OfNat.ofNat n) : Int) ≤ (c.toNat : Int)) = decide (OfNat.ofNat n ≤ c) := by
  rw [decide_eq_decide, UInt8.le_iff_toNat_le, toNat_lit n h]
  exact Int.ofNat_le

/-! `s[i]` and `s[len(s)-1]` against a byte other than 0: out of range the translation yields 0, so
the comparison fails, as the model's `s[i]? == some c` does; no guard on the length is needed -/

theorem getD_beq (o : Option UInt8) {c : UInt8} (h : c ≠ 0) : (o.getD 0 == c) = (o == some c) := by
  cases o with
  | none => simpa using h.symm
  | some x => simp

theorem lit_ne_zero {n : Nat} (h0 : 0 < n) (h : n < 256) : (OfNat.ofNat n : UInt8) ≠ 0 := fun e => by
  have := congrArg UInt8.toNat e
  rw [toNat_lit n h] at this
  exact absurd this (Nat.ne_of_gt h0)

theorem idx_beq (s : List UInt8) (i n : Nat) (h0 : 0 < n) (h : n < 256) :
    (GoIdx.idx s i == (no_index (OfNat.ofNat n) : Int)) = (s[i]? == some (OfNat.ofNat n)) := by
  show (((s.getD i 0).toNat : Int) == _) = _
  rw [toNat_beq _ n h, List.getD_eq_getElem?_getD, getD_beq _ (lit_ne_zero h0 h)]

theorem last_beq (s : List UInt8) (n : Nat) (h0 : 0 < n) (h : n < 256) :
    (GoIdx.last s == (no_index (OfNat.ofNat n) : Int)) = (s.getLast? == some (OfNat.ofNat n)) := by
  show (((s.getLast?.getD 0).toNat : Int) == _) = _
  rw [toNat_beq _ n h, getD_beq _ (lit_ne_zero h0 h)]

/-! `len(x)` against 0, in the three spellings `!= 0` / `== 0` (via `bne_iff_ne`, `beq_iff_eq`) and `> 0`; against a bound -/

theorem len_ge {α} (x : List α) (n : Nat) :
    decide ((GoLen.len x : Int) ≥ (no_index (OfNat.ofNat n))) = decide (x.length ≥ n) :=
  decide_eq_decide.mpr (Int.ofNat_le (m := n) (n := x.length))

theorem len_eq_zero {α} (x : List α) : (GoLen.len x : Int) = 0 ↔ x = [] := by
  cases x <;> simp [GoLen.len]
  omega

theorem len_pos {α} (x : List α) : (GoLen.len x : Int) > 0 ↔ x ≠ [] := by
  cases x <;> simp [GoLen.len]

end Jrpc.Tie.Bytes
