import Jrpc.Gen.Funcs
import Jrpc.Model.Wire
import Jrpc.Proofs.Errors
import Jrpc.Model.Client
import Jrpc.Tie.C02
/-! # Tie obligations for three decision procedures translated as a whole

* `Client.deliverLocked` (C04 / C05): which request, if any, an inbound member completes.
* the loop body of `tasks.responses` (C01 / C02 / C14): which reply, if any, a task produces.
* the loop body of `Server.filterBatchLocked` (C02 / C09): what the reader does with one member.
All are regenerated from the current source into `Gen.Funcs` and proved equal, for all inputs,
to flat specifications and to the corresponding pieces of the models. -/
namespace Jrpc.Tie.Decide
open Jrpc.Gen Jrpc.GoPrelude Jrpc.Wire

/-- **`deliverLocked` of the current source**: a request or notification goes to the callback path;
otherwise the member completes the request registered under its *normalised* id - which is removed
from the pending set before its slot is written - and is discarded when there is none -/
theorem deliver_matches (isReq invalid : Bool) (rawID : List UInt8) (has : List UInt8 → Bool) :
    Funcs.deliverAct isReq rawID invalid has =
      (if isReq then .callback
       else if has (Wire.fixID rawID) then .complete (Wire.fixID rawID) true invalid
       else .discard) := by
  unfold Funcs.deliverAct
  rw [Jrpc.Tie.C02.fixID_matches]
  cases isReq <;> cases invalid <;> cases h : has (Wire.fixID rawID) <;> simp [h]

/-- a member completes a request iff it is a reply whose normalised id is pending; then it is that
entry, and the entry has been deleted -/
theorem deliver_completes_iff (isReq invalid : Bool) (rawID k : List UInt8) (d e : Bool) (has : List UInt8 → Bool) :
    Funcs.deliverAct isReq rawID invalid has = .complete k d e ↔
      (isReq = false ∧ has (Wire.fixID rawID) = true ∧ k = Wire.fixID rawID ∧ d = true ∧ e = invalid) := by
  rw [deliver_matches]
  cases isReq <;> cases h : has (Wire.fixID rawID) <;> simp [eq_comm]

/-- the model's delivery step is this decision: with the pending set as the lookup, the model's
`deliver` writes a slot exactly when the source completes a request, and removes the entry -/
theorem model_deliver_agrees (s : Jrpc.Client.St) (id payload : Nat) :
    (Jrpc.Client.step s (.deliver id payload)).slots ≠ s.slots ↔ id ∈ s.pending := by
  simp only [Jrpc.Client.step]
  by_cases h : id ∈ s.pending <;> simp [h]

/-- **the loop body of `tasks.responses` of the current source**, flat: an id-less task is answered
only for −32700 / −32600 (with id `null`); the payload is the value, the `*Error` (without data
that cannot be encoded), or a new error object whose code is the error's code, −32603 if it has none -/
theorem response_matches (idNil mNil errNil isJ dataValid : Bool) (id : List UInt8) (dataLen errCode : Int) :
    Funcs.responseFor idNil id mNil errNil isJ dataLen dataValid errCode =
      (if idNil && (errCode != Consts.ParseError && errCode != Consts.InvalidRequest) then none
       else some ⟨if idNil then Wire.nullText else id, mNil,
          if errNil then .result
          else if isJ then (if dataLen != 0 && !dataValid then .stripped else .asIs)
          else .coded (if errCode != Consts.NoError then errCode else Consts.InternalError)⟩) := by
  have hn : Wire.nullText = [110, 117, 108, 108] := rfl
  unfold Funcs.responseFor
  -- these four select a branch of the translated tree; `apply_ite` moves the payload's tests out of the record on
  -- the right, so that both sides are cascades over the same tests on `errCode`, `dataLen`, `dataValid`, which
  -- `simp` brings to one spelling (it costs 2^5 times more to split on those as well)
  cases idNil <;> cases mNil <;> cases errNil <;> cases isJ <;>
    simp [hn, apply_ite some, apply_ite (RespOut.mk _ _), apply_ite RespErr.coded]

/-- the wire model's reply to a member refused with one code, in the shape of `response_matches` -/
theorem respond_single (j : Msg) (c : Int) :
    respond j (.fail [c]) =
      (if Wire.fixID j.id == [] && (c != Consts.ParseError && c != Consts.InvalidRequest) then none
       else some ⟨if Wire.fixID j.id == [] then Wire.nullText else Wire.fixID j.id, [c]⟩) := by
  have h1 : Consts.ParseError = Wire.ParseError := rfl
  have h2 : Consts.InvalidRequest = Wire.InvalidRequest := rfl
  unfold respond
  by_cases hid : Wire.fixID j.id = [] <;> by_cases a : c = Wire.ParseError <;> by_cases b : c = Wire.InvalidRequest <;>
    simp [h1, h2, hid, a, b]

/-- a reply is produced exactly when the wire model's `respond` produces one (for a single code) -/
theorem response_some_iff_respond (j : Msg) (c : Int) (mNil errNil isJ dataValid : Bool) (dataLen : Int) :
    (Funcs.responseFor (Wire.fixID j.id == []) (Wire.fixID j.id) mNil errNil isJ dataLen dataValid c).isSome =
      (respond j (.fail [c])).isSome := by
  rw [response_matches, respond_single, apply_ite Option.isSome, apply_ite Option.isSome]
  rfl

/-- and carries `null` or the member's id, as `respond` does -/
theorem response_id_is_respond (j : Msg) (c : Int) (mNil errNil isJ dataValid : Bool) (dataLen : Int) (r : RespOut)
    (h : Funcs.responseFor (Wire.fixID j.id == []) (Wire.fixID j.id) mNil errNil isJ dataLen dataValid c = some r) :
    ∃ e, respond j (.fail [c]) = some e ∧ e.id = r.id := by
  rw [response_matches] at h
  rw [respond_single]
  generalize (Wire.fixID j.id == [] && (c != Consts.ParseError && c != Consts.InvalidRequest)) = skip at h ⊢
  cases skip
  · cases h
    exact ⟨_, rfl, rfl⟩
  · cases h

/-- the data of an `*Error` is dropped exactly when the model's `sanitizeError` drops it -/
theorem response_strip_is_sanitize (e : ErrVal) (id : List UInt8) (c : Int) :
    (Funcs.responseFor false id false false true (e.data.length : Int) (Jrpc.Json.valid e.data) c =
        some ⟨id, false, .stripped⟩ ↔ sanitizeError e ≠ e ∨ (e.data.length ≠ 0 ∧ Jrpc.Json.valid e.data = false)) ∧
    (Funcs.responseFor false id false false true (e.data.length : Int) (Jrpc.Json.valid e.data) c =
        some ⟨id, false, .asIs⟩ ↔ ¬ (e.data.length ≠ 0 ∧ Jrpc.Json.valid e.data = false)) := by
  rw [response_matches]
  unfold sanitizeError
  by_cases hl : e.data.length = 0 <;> cases hv : Jrpc.Json.valid e.data <;> simp [hl, hv]
  all_goals omega

/-- for an error that is not an `*Error`, the reply's code is the one the error model's `toWire`
gives: `ErrorCode` of the error, −32603 when it has none -/
theorem response_code_is_toWire (e : Jrpc.Errors.Err) (id : List UInt8) (dl : Int) (dv : Bool)
    (hj : ∀ c m d, e ≠ .jerr c m d) :
    Funcs.responseFor false id false false false dl dv (Jrpc.Errors.errorCode (some e)) =
      some ⟨id, false, .coded (Jrpc.Errors.toWire e).code⟩ := by
  have h1 : Consts.NoError = Jrpc.Errors.NoError := rfl
  have h2 : Consts.InternalError = Jrpc.Errors.InternalError := rfl
  rw [response_matches, Jrpc.Errors.toWire_of_not_jerr hj, h1, h2]
  generalize Jrpc.Errors.errorCode _ = c
  by_cases hc : c = Jrpc.Errors.NoError <;> simp [hc]

/-- **the loop body of `filterBatchLocked` of the current source**: requests and notifications are
kept whatever their id; a reply goes to the callback pending under its *normalised* id, whose
entry is removed first; with no such callback it is dropped on a push-enabled server when it is
reply-shaped, and kept (to be answered as an error) otherwise -/
theorem filter_matches (isReq allowP : Bool) (rawID m r : List UInt8) (e : Option Unit) (has : List UInt8 → Bool) :
    Funcs.filterAct isReq rawID m e r allowP has =
      (if isReq then .keep
       else if has (Wire.fixID rawID) then .deliver (Wire.fixID rawID) true
       else if allowP && m == [] && (e.isSome || r != []) then .drop
       else .keep) := by
  unfold Funcs.filterAct
  rw [Jrpc.Tie.C02.fixID_matches]
  -- every input that selects a branch is decided, the data too: left to `simp`, the proof depends on how the
  -- source arranges the tests (benign/C09-G)
  cases isReq
  · cases h : has (Wire.fixID rawID)
    · cases allowP <;> cases e <;> cases m <;> cases r <;> simp [h, GoNil.isNil]
    · simp [h]
  · simp

/-- a request is never taken for the reply to a callback, even when it carries the id of one -/
theorem request_never_consumed (allowP : Bool) (rawID m r : List UInt8) (e : Option Unit) (has : List UInt8 → Bool) :
    Funcs.filterAct true rawID m e r allowP has = .keep := by
  rw [filter_matches]; rfl

/-- with no callback pending under its id, what happens to a member is the wire model's `keepMember` -/
theorem filter_is_keepMember (cfg : Cfg) (j : Msg) (has : List UInt8 → Bool) (hno : has (Wire.fixID j.id) = false) :
    Funcs.filterAct j.isRequestOrNotification j.id j.m (if j.hasE then some () else none) j.r cfg.allowPush has =
      (if keepMember cfg j then .keep else .drop) := by
  have he : (if j.hasE then some () else none : Option Unit).isSome = j.hasE := by cases j.hasE <;> rfl
  rw [filter_matches, hno, he]
  unfold keepMember
  generalize (cfg.allowPush && j.m == [] && (j.hasE || j.r != [])) = drops
  cases j.isRequestOrNotification <;> cases drops <;> rfl

/-- a reply with id `1` completes the request pending under `1`; `null` is "no id" and matches nothing;
a server request goes to the callback path; an unknown id is discarded -/
example :
    Funcs.deliverAct false [49] false (fun k => k == [49]) = .complete [49] true false ∧
    Funcs.deliverAct false [49] true (fun k => k == [49]) = .complete [49] true true ∧
    Funcs.deliverAct false [110, 117, 108, 108] false (fun k => k == [49]) = .discard ∧
    Funcs.deliverAct true [49] false (fun k => k == [49]) = .callback ∧
    Funcs.deliverAct false [50] false (fun k => k == [49]) = .discard := by decide +kernel

/-- a notification that failed with −32601 gets no reply, one that failed validation gets `null`;
a call whose handler returned a plain error gets −32603... unless the error has a code -/
example :
    Funcs.responseFor true [] false false false 0 true (-32601) = none ∧
    Funcs.responseFor true [] true false true 0 true (-32600) = some ⟨[110, 117, 108, 108], true, .asIs⟩ ∧
    Funcs.responseFor false [55] false false false 0 true (-32099) = some ⟨[55], false, .coded (-32603)⟩ ∧
    Funcs.responseFor false [55] false false false 0 true (-32098) = some ⟨[55], false, .coded (-32098)⟩ ∧
    Funcs.responseFor false [55] false false true 3 false 7 = some ⟨[55], false, .stripped⟩ ∧
    Funcs.responseFor false [55] false true false 0 true (-32099) = some ⟨[55], false, .result⟩ := by decide +kernel

/-- a call that happens to carry the id of a pending callback is kept; the reply to it is delivered;
an unmatched reply is dropped with push enabled and kept without -/
example :
    Funcs.filterAct true [49] [109] none [] true (fun k => k == [49]) = .keep ∧
    Funcs.filterAct false [49] [] none [53] true (fun k => k == [49]) = .deliver [49] true ∧
    Funcs.filterAct false [50] [] none [53] true (fun k => k == [49]) = .drop ∧
    Funcs.filterAct false [50] [] none [53] false (fun k => k == [49]) = .keep := by decide +kernel

end Jrpc.Tie.Decide
