import Jrpc.Gen.Facts
import Jrpc.Gen.Funcs
import Jrpc.Model.Wire
import Jrpc.Tie.C02
/-! # Tie obligations for C13 -/
namespace Jrpc.Tie.C13
open Jrpc.Gen Jrpc.Tie.Bytes

/-- the server reader, the client reader and the exported `ParseRequests` all decode inbound
bytes with the one envelope parser (so `ParseRequests` flags exactly what a Server would) -/
theorem one_parser :
    Facts.envelopeParserCallers = ["client.go:accept", "json.go:ParseRequests", "server.go:read"] := by decide

/-- single non-batch message bare, anything else an array -/
theorem toJSON_single (n : Int) (b : Bool) : Funcs.toJSONSingle n b = (n == 1 && !b) :=
  Jrpc.Tie.C02.toJSON_single_matches n b

/-- `Client.marshalParams`, after `json.Marshal`: null → member omitted, array/object → sent, else refused.
(The three tests are decided first, so that the proof does not depend on how the source spells the
test on the first byte: `!=` chain, `==` chain, switch.) -/
theorem marshalParams_tail (b : List UInt8) :
    Funcs.marshalParamsTail b (fun x => ((Jrpc.Json.firstByte x).toNat : Int)) = Jrpc.Wire.outParams b := by
  cases hn : Jrpc.Wire.isNull b <;> by_cases h91 : Jrpc.Json.firstByte b = 91 <;> by_cases h123 : Jrpc.Json.firstByte b = 123 <;>
    simp [Funcs.marshalParamsTail, Jrpc.Wire.outParams, Jrpc.Tie.C02.isNull_matches, bne, toNat_beq, hn, h91, h123]

/-- `Server.pushReq` applies the same policy to pushed notifications and callbacks -/
theorem pushParams_tail (b : List UInt8) :
    Funcs.pushParamsTail b (fun x => ((Jrpc.Json.firstByte x).toNat : Int)) = Jrpc.Wire.outParams b := by
  cases hn : Jrpc.Wire.isNull b <;> by_cases h91 : Jrpc.Json.firstByte b = 91 <;> by_cases h123 : Jrpc.Json.firstByte b = 123 <;>
    simp [Funcs.pushParamsTail, Jrpc.Wire.outParams, Jrpc.Tie.C02.isNull_matches, bne, toNat_beq, hn, h91, h123]

end Jrpc.Tie.C13
