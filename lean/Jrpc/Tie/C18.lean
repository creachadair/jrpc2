import Jrpc.Gen.Funcs
import Jrpc.Gen.Consts
import Jrpc.Model.Http
/-! # Tie obligations for C18 / C19: `parseConstant` of getter.go and the two codes the HTTP layer maps -/
namespace Jrpc.Tie.C18
open Jrpc.Gen Jrpc.GoPrelude Jrpc.Http

/-- `parseConstant` of getter.go recognises exactly `true`, `false`, `null` -/
theorem parse_constant (s : List UInt8) :
    Funcs.parseConstant s =
      (if s = [116, 114, 117, 101] then some .ctrue else if s = [102, 97, 108, 115, 101] then some .cfalse
       else if s = [110, 117, 108, 108] then some .cnull else none) := by
  unfold Funcs.parseConstant
  by_cases a : s = [116, 114, 117, 101]
  · simp [a]
  · by_cases b : s = [102, 97, 108, 115, 101]
    · simp [b]
    · by_cases c : s = [110, 117, 108, 108] <;> simp [a, b, c]

/-- the codes the Getter's status switch and the bridge rely on -/
theorem codes : Consts.MethodNotFound = -32601 ∧ Consts.ParseError = -32700 := by decide

end Jrpc.Tie.C18
