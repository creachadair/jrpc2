import Jrpc.Model.Http
/-! # C18 — HTTP bridge: each caller gets exactly its own responses with its own ids -/
namespace Jrpc.Props.C18
open Jrpc.Http
open Jrpc.Json (Bytes)

def numCalls (ms : List Member) : Nat := (inboundIDs ms).length

theorem mem_inboundIDs {ms : List Member} {id : Bytes} : id ∈ inboundIDs ms ↔ .call id ∈ ms := by
  induction ms with
  | nil => simp [inboundIDs]
  | cons m r ih => cases m <;> simp [inboundIDs, ih]

theorem mem_staticErrors {ms : List Member} {x : Bytes} :
    x ∈ staticErrors ms ↔ ∃ i, .invalid i ∈ ms ∧ x = if i = [] then [110, 117, 108, 108] else i := by
  induction ms with
  | nil => simp [staticErrors]
  | cons m r ih => cases m <;> simp [staticErrors, ih]

theorem specs_calls (ms : List Member) : ((specs ms).filter (!·)).length = numCalls ms := by
  induction ms with
  | nil => rfl
  | cons m r ih => cases m <;> simp [specs, inboundIDs, numCalls] at ih ⊢ <;> omega

/-- **the re-issued batch has one call entry per call in the body, in order**, so the i-th
response of `Batch` (responses come back in spec order with notifications omitted, C04
`batch_order`) is relabelled with the i-th caller id — the index shift caused by notifications
and invalid members mixed with calls cannot misalign ids -/
theorem own_ids (ms : List Member) :
    replyIDs ms (numCalls ms) = staticErrors ms ++ inboundIDs ms := by
  unfold replyIDs numCalls; rw [List.take_length]

/-- the reply has exactly one object per call and per statically invalid member -/
theorem reply_count (ms : List Member) :
    (replyIDs ms (numCalls ms)).length = (ms.filter fun m => match m with | .note => false | _ => true).length := by
  rw [own_ids]
  induction ms with
  | nil => rfl
  | cons m r ih => cases m <;> simp [staticErrors, inboundIDs] at ih ⊢ <;> omega

/-- every id in the reply is an id the caller wrote in this very body (or `null` for a member
without one): what other HTTP callers use is irrelevant, because nothing but `ms` enters -/
theorem ids_from_own_body (ms : List Member) (id : Bytes) (h : id ∈ replyIDs ms (numCalls ms)) :
    Member.call id ∈ ms ∨ Member.invalid id ∈ ms ∨ (id = [110, 117, 108, 108] ∧ Member.invalid [] ∈ ms) := by
  rw [own_ids, List.mem_append, mem_staticErrors, mem_inboundIDs] at h
  rcases h with ⟨i, hi, rfl⟩ | h
  · by_cases h0 : i = []
    · subst h0
      exact .inr (.inr ⟨rfl, hi⟩)
    · rw [if_neg h0]
      exact .inr (.inl hi)
  · exact .inl h

/-- **shape and status**: 204 with an empty body iff there is no response object; one object for
one response; an array otherwise -/
theorem shape_and_status (n : Nat) :
    (shape n = .noContent ↔ n = 0) ∧ (shape n = .single ↔ n = 1) ∧ (shape n = .array ↔ n ≥ 2) := by
  unfold shape
  by_cases h0 : n = 0
  · simp [h0]
  · by_cases h1 : n = 1
    · simp [h1]
    · simp [h0, h1]
      omega

/-- **statically invalid members do not reach a handler**: they are not among the specs re-issued -/
theorem static_errors_no_handler (ms : List Member) :
    (specs ms).length = (ms.filter fun m => match m with | .invalid _ => false | _ => true).length := by
  induction ms with
  | nil => rfl
  | cons m r ih => cases m <;> simp [specs] at ih ⊢ <;> omega

/-- **the gate**: anything but POST is 405; a media type other than application/json, or a charset
other than utf-8 / utf8, is 415 — none of these reaches `serveInternal` -/
theorem gate_rules (method mt : Bytes) (cs : Option Bytes) :
    (method ≠ [80, 79, 83, 84] → gate method mt cs = 405) ∧
    (method = [80, 79, 83, 84] → mt ≠ [97, 112, 112, 108, 105, 99, 97, 116, 105, 111, 110, 47, 106, 115, 111, 110] → gate method mt cs = 415) := by
  unfold gate
  constructor
  · intro h
    simp [h]
  · intro h1 h2
    simp [h1, h2]

-- non-vacuity: calls mixed with a notification and an invalid member keep their own ids
example : replyIDs [.call [49], .note, .invalid [], .call [34, 97, 34], .invalid [55]] 2 =
    [[110, 117, 108, 108], [55], [49], [34, 97, 34]] := by decide +kernel

end Jrpc.Props.C18
