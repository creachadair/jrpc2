import Jrpc.Proofs.Framing
import Jrpc.Proofs.Hdr
import Jrpc.Proofs.Raw
/-! # C11 — framing round trip: records arrive intact and in order -/
namespace Jrpc.Props.C11
open Jrpc.Framing
open Jrpc.Json (Bytes)

/-- `Send` refuses, writing nothing, exactly the records that contain the split byte -/
theorem split_send_refuses (d : UInt8) (msg : Bytes) :
    (d ∈ msg → splitSend d msg = none) ∧ (d ∉ msg → splitSend d msg = some (msg ++ [d])) := by
  unfold splitSend; constructor <;> intro h <;> simp [h]

theorem split_recv_send (d : UInt8) (msg rest : Bytes) (h : d ∉ msg) :
    splitRecv d (msg ++ d :: rest) = (.ok msg, rest) := by
  rw [splitRecv, cutAt_append h]

/-- the sender's output for a list of records -/
def splitStream (d : UInt8) : List Bytes → Bytes
  | [] => []
  | r :: rs => r ++ d :: splitStream d rs

/-- **round trip**: for every list of records without the split byte (any other byte, any
length, including empty records) successive Recvs return exactly those records, in order, and
then `io.EOF` for ever -/
theorem split_roundtrip (d : UInt8) (rs : List Bytes) (h : ∀ r ∈ rs, d ∉ r) (k : Nat) :
    recvN (.split d) (rs.length + k) (splitStream d rs) =
      rs.map .ok ++ List.replicate k (.err .eof) :=
  recvN_roundtrip (.split d) (frame := fun r rest => r ++ d :: rest)
    (fun r rest => split_recv_send d r rest) rfl (fun _ _ => rfl) rs h k

/-- the accumulation loop over `ErrBufferFull` pieces yields their concatenation, however a long
line is cut by the reader's buffer -/
theorem split_accumulate (pieces : List Bytes) (last : Bytes) :
    splitAccumulate pieces last = pieces.flatten ++ last := by
  have : ∀ acc : Bytes, pieces.foldl (· ++ ·) acc = acc ++ pieces.flatten := by
    induction pieces with
    | nil => simp
    | cons p ps ih => simp [ih]
  simp [splitAccumulate, this]

/-- the sender's output for a list of records -/
def hdrStream (cfg : HdrCfg) : List Bytes → Bytes
  | [] => []
  | r :: rs => hdrSend cfg r ++ hdrStream cfg rs

/-- **round trip** for the header framings: every list of records (growing, shrinking, empty,
arbitrary bytes) comes back byte for byte and in order, then `io.EOF` for ever.  The result does
not depend on the receive-buffer history (`rbuf`): the model of `Recv` has no such state, and
`Tie.C11.realloc_policy` pins the reuse condition that makes that sound. -/
theorem hdr_roundtrip (cfg : HdrCfg) (rs : List Bytes)
    (hm : cfg.mtype = [] ∨ GoodMime cfg.mtype)
    (hlen : ∀ r ∈ rs, r.length ≤ 9223372036854775807) (k : Nat) :
    recvN (.hdr cfg) (rs.length + k) (hdrStream cfg rs) = rs.map .ok ++ List.replicate k (.err .eof) :=
  recvN_roundtrip (.hdr cfg) (frame := fun r rest => hdrSend cfg r ++ rest)
    (fun r rest => hdr_recv_send cfg r rest hm) rfl (fun _ _ => rfl) rs hlen k

/-- the LSP mime type is one the theorem covers -/
def lspMime : Bytes := [97, 112, 112, 108, 105, 99, 97, 116, 105, 111, 110, 47, 118, 115, 99, 111, 100, 101, 45, 106, 115, 111, 110, 114, 112, 99, 59, 32, 99, 104, 97, 114, 115, 101, 116, 61, 117, 116, 102, 45, 56]  -- "application/vscode-jsonrpc; charset=utf-8"

theorem lsp_mime_good : GoodMime lspMime := by
  refine ⟨by decide, by decide, ?_, ?_⟩ <;> (intro c hc; revert hc; decide +revert)

/-- `Send` writes `null` + newline for the empty record and the record itself otherwise -/
theorem raw_send (msg : Bytes) :
    rawSend msg = if msg = [] || isNull msg then [110, 117, 108, 108, 10] else msg := rfl

/-- the empty record round-trips through `null\n` -/
theorem raw_roundtrip_empty : rawRecv (rawSend []) = (.ok [], [10]) := by decide

theorem raw_recv_send (v rest : Bytes) (h : isContainerB v = true) :
    rawRecv (rawSend v ++ rest) = (.ok v, rest) := by
  have hnn := container_not_null v h
  have hne : v ≠ [] := by rintro rfl; exact absurd h (by decide)
  rw [show rawSend v = v by simp [rawSend, hne, hnn]]
  exact raw_recv_container v rest h

/-- the concatenation `Send` produces for a list of records -/
def rawStream : List Bytes → Bytes
  | [] => []
  | r :: rs => rawSend r ++ rawStream rs

/-- **round trip (RawJSON)**: for every list of records that are JSON objects or arrays (every
JSON-RPC message is one), successive Recvs on the plain concatenation return exactly those
records, in order, and then `io.EOF` for ever -/
theorem raw_roundtrip (rs : List Bytes) (h : ∀ r ∈ rs, isContainerB r = true) (k : Nat) :
    recvN .raw (rs.length + k) (rawStream rs) = rs.map .ok ++ List.replicate k (.err .eof) :=
  recvN_roundtrip .raw (frame := fun r rest => rawSend r ++ rest)
    (fun r rest => raw_recv_send r rest) rfl (fun _ _ => rfl) rs h k

/-- premises are satisfiable: a request object, a batch array, with nested strings and escapes -/
example : isContainerB [123, 34, 97, 92, 34, 34, 58, 91, 49, 44, 123, 125, 93, 125] = true := by decide +kernel
example : isContainerB [91, 123, 125, 44, 32, 91, 93, 93] = true := by decide +kernel
example : isContainerB [49, 50] = false := by decide +kernel

/-- `Direct` hands records over one by one through a channel: FIFO, unframed -/
def directRecv : List Bytes → Res × List Bytes
  | [] => (.err .eof, [])
  | r :: rs => (.ok r, rs)

/-- `n` successive receives from the queue -/
def directRecvN : Nat → List Bytes → List Res
  | 0, _ => []
  | n + 1, q => (directRecv q).1 :: directRecvN n (directRecv q).2

theorem direct_roundtrip (rs : List Bytes) (k : Nat) :
    directRecvN (rs.length + k) rs = rs.map .ok ++ List.replicate k (.err .eof) := by
  have hnil : ∀ n, directRecvN n [] = List.replicate n (.err .eof) := by
    intro n
    induction n with
    | zero => rfl
    | succ n ih => simp [directRecvN, directRecv, List.replicate_succ, ih]
  exact roundtrip (stream := id) (P := fun _ => True) hnil (fun _ _ _ _ => rfl) rs (fun _ _ => trivial) k

-- non-vacuity
example : recvN (.split 10) 4 (splitStream 10 [[97], [], [98, 99]]) =
    [.ok [97], .ok [], .ok [98, 99], .err .eof] := by decide +kernel
example : recvN (.hdr ⟨[], false⟩) 2 (hdrSend ⟨[], false⟩ [104, 105]) = [.ok [104, 105], .err .eof] := by decide +kernel
example : recvN .raw 3 ([123, 125] ++ [91, 49, 93]) = [.ok [123, 125], .ok [91, 49, 93], .err .eof] := by decide +kernel

end Jrpc.Props.C11
