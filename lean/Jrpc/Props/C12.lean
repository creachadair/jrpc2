import Jrpc.Proofs.Framing
import Jrpc.Proofs.Atoi
/-! # C12 — framing robustness: arbitrary streams never crash, hang, fabricate or truncate

`Recv` is a total function of the remaining stream in the model (no crash outcome exists, no
fuel can run out: `hdrLoop` is given `length + 1` fuel and consumes a byte per line), so
"terminates without panicking" is carried by totality plus the correspondence run; the theorems
below are the content of the remaining clauses. -/
namespace Jrpc.Props.C12
open Jrpc.Framing
open Jrpc.Json (Bytes)

/-- **soundness of Split.Recv**: whatever the stream, a returned record is exactly the bytes of
the stream up to the next delimiter — never fabricated, reordered or shortened — and a final
record cut off by end of stream is returned whole together with an error -/
theorem split_recv_sound (d : UInt8) (s : Bytes) :
    match splitRecv d s with
    | (.ok r, rest) => s = r ++ d :: rest ∧ d ∉ r
    | (.okErr r e, rest) => e = .eof ∧ rest = [] ∧ s = r ∧ r ≠ [] ∧ d ∉ r
    | (.err e, rest) => e = .eof ∧ rest = [] ∧ s = []
    | (.mismatch _ _, _) => False := by
  unfold splitRecv
  rcases cutAt_cases d s with ⟨r, rest, rfl, hr, hc⟩ | ⟨hs, hc⟩
  · rw [hc]
    exact ⟨rfl, hr⟩
  · rw [hc]
    cases s <;> simp [hs]

/-- a record is never silently shortened: without a delimiter the outcome carries an error -/
theorem split_truncated_final_is_error (d : UInt8) (s : Bytes) (h : d ∉ s) (hne : s ≠ []) :
    splitRecv d s = (.okErr s .eof, []) := by
  rw [splitRecv, cutAt_none h]
  cases s with
  | nil => exact absurd rfl hne
  | cons b r => rfl

/-- every framing keeps failing once the stream is exhausted -/
theorem exhausted_keeps_failing (k : Kind) (n : Nat) :
    recvN k n [] = List.replicate n (.err .eof) :=
  recvN_nil k n

/-- an absurd or overflowing Content-Length is an *error*: `atoi` is total, and yields a number
only inside the 64-bit range -/
theorem length_in_range (bs : Bytes) (n : Int) (h : atoi bs = some n) :
    -9223372036854775808 ≤ n ∧ n ≤ 9223372036854775807 :=
  (atoi_some h).2.2

/-- Content-Length must be decimal: anything containing a non-digit after the optional sign is
rejected (so `0x10`, `1e3`, `1_0`, ` 3`, `3.0` are errors) -/
theorem length_decimal (bs : Bytes) (c : UInt8) (hc : c ∈ (signSplit bs).2)
    (hnd : Jrpc.Json.isDigit c = false) : atoi bs = none := by
  cases h : atoi bs with
  | none => rfl
  | some n => exact absurd ((atoi_some h).2.1 c hc) (by simp [hnd])

/-- a missing, empty, negative or non-decimal length never reaches the body read -/
theorem hdr_bad_length_is_error (cfg : HdrCfg) (s : Bytes) (ct cl rest : Bytes)
    (hl : hdrLoop (s.length + 1) s [] [] = .ok (ct, cl, rest))
    (hbad : cl = [] ∨ atoi cl = none ∨ ∃ n, atoi cl = some n ∧ n < 0) :
    ∃ e, (hdrRecv cfg s).1 = .err e ∧ (e = .missingLength ∨ e = .invalidLength) := by
  unfold hdrRecv
  rw [hl]
  by_cases hc : cl = []
  · simp [hc]
  · rcases hbad with h | h | ⟨n, h, hn⟩
    · exact absurd h hc
    · simp [hc, h]
    · simp [hc, h, hn]

/-- up-front allocation never exceeds 2 MiB whatever length the header declares: beyond
`maxPrealloc` the payload is read incrementally and memory grows only with bytes received -/
theorem alloc_bounded_by_input (dl size : Nat) : hdrAlloc dl size ≤ 2 * maxPrealloc := by
  unfold hdrAlloc hdrIncremental maxPrealloc
  by_cases h : (size : Int) > 1048576
  · simp [h]
  · simp only [h, decide_false, Bool.false_eq_true, if_false]
    split <;> omega

/-- the body read returns exactly the next `size` bytes, or an error when the stream is shorter -/
theorem hdr_body_sound (size : Nat) (rest : Bytes) :
    match hdrBody size rest with
    | (.ok data, rest') => rest = data ++ rest' ∧ data.length = size
    | (.error e, rest') => rest.length < size ∧ rest' = [] ∧ (e = .eof ∨ e = .unexpectedEOF) := by
  unfold hdrBody
  by_cases h : size ≤ rest.length
  · simp [h]
  · have hlt : rest.length < size := by omega
    simp only [h, if_false]
    by_cases h2 : size > maxPrealloc
    · simp [h2, hlt]
    · by_cases h3 : rest = [] <;> simpa [h2, h3] using hlt

/-- Content-Type policy: StrictHeader reports a mismatch (with the message) unless the types are
equal; Header / LSP additionally accept an absent type; a present-and-different type is an error
under every policy -/
theorem ctype_policy (cfg : HdrCfg) (s ct cl rest data rest' : Bytes) (n : Int)
    (hl : hdrLoop (s.length + 1) s [] [] = .ok (ct, cl, rest)) (hc : cl ≠ [])
    (ha : atoi cl = some n) (hn : ¬ n < 0) (hb : hdrBody n.toNat rest = (.ok data, rest')) :
    hdrRecv cfg s =
      (if ct = cfg.mtype then (.ok data, rest')
       else if cfg.optional && ct = [] then (.ok data, rest')
       else (.mismatch data ct, rest')) := by
  unfold hdrRecv
  rw [hl]
  simp [hc, ha, hn, hb]

-- non-vacuity / the findings as concrete facts about the (repaired) model
example : (hdrRecv' ⟨[], false⟩ (contentLengthLit ++ [57, 50, 50, 51, 51, 55, 50, 48, 51, 54, 56, 53, 52, 55, 55, 53, 56, 48, 55] ++ crlf ++ crlf ++ [120])).1
    = .err .unexpectedEOF := by decide   -- Content-Length: 9223372036854775807 → error, not a crash
example : recvN (.split 10) 3 [97, 98, 99, 10, 100, 101, 102] = [.ok [97, 98, 99], .okErr [100, 101, 102] .eof, .err .eof] := by decide +kernel
example : atoi [49, 56, 52, 52, 54, 55, 52, 52, 48, 55, 51, 55, 48, 57, 53, 53, 49, 54, 49, 53] = none := by decide +kernel

end Jrpc.Props.C12
