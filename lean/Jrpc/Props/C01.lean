import Jrpc.Model.BatchRun
import Jrpc.Model.Wire
import Jrpc.Proofs.Basic
/-! # C01 — exactly one correlated response per call, none per notification

The content and shape of the reply (one entry per call in request order, carrying that call's
id; id-less members only for −32700/−32600; array iff the inbound message was an array; nothing
when there is nothing to report) are theorems about `Jrpc.Wire.serve` (see `Props.C02`:
`respond_id_echo`, `call_answered`, `notification_silent`, `reply_shape`).  This file proves the
concurrency half on the per-message machine: one invocation per member, one delivery, only after
every handler has returned, and completeness at quiescence. -/
namespace Jrpc.Props.C01
open Jrpc.BatchRun

theorem statusOf_set (u v : Nat) (st : Status) (ms : List (Nat × Status)) :
    statusOf v (setStatus u st ms) =
      if v = u then (statusOf u ms).map fun _ => st else statusOf v ms := by
  induction ms with
  | nil => simp [setStatus, statusOf]
  | cons p r ih => grind [setStatus, statusOf]

theorem statusOf_init (uids : List Nat) (u : Nat) :
    statusOf u (init uids).members = if u ∈ uids then some .pending else none := by
  induction uids with
  | nil => rfl
  | cons v r ih => grind [statusOf, init]

theorem allDone_set_done (u : Nat) (ms : List (Nat × Status)) (h : allDone ms = true) :
    allDone (setStatus u .done ms) = true := by
  induction ms with
  | nil => rfl
  | cons p r ih =>
    simp only [allDone, List.all_cons, Bool.and_eq_true] at h ih ⊢
    simp only [setStatus]
    split <;> simp [h, ih]

theorem allDone_status {ms : List (Nat × Status)} {u : Nat} {st : Status} (h : allDone ms = true)
    (hs : statusOf u ms = some st) : st = .done := by
  induction ms with
  | nil => simp [statusOf] at hs
  | cons p r ih =>
    simp only [allDone, List.all_cons, Bool.and_eq_true, beq_iff_eq] at h ih
    simp only [statusOf] at hs
    split at hs
    · exact Option.some.inj hs ▸ h.1
    · exact ih h.2 hs

/-- the number of times `u`'s handler has been invoked so far -/
def invocations (s : St) (u : Nat) : Nat := s.starts.count u

/-- the handlers invoked so far are those of the members that are running or done, each invoked
once; the reply is delivered at most once, and only when every member is done -/
structure Inv (s : St) : Prop where
  once : s.starts.Nodup
  started : ∀ u, u ∈ s.starts ↔ statusOf u s.members = some .running ∨ statusOf u s.members = some .done
  deliverOnce : s.delivered ≤ 1
  afterAll : s.delivered = 1 → allDone s.members = true

theorem inv_init (uids : List Nat) : Inv (init uids) where
  once := .nil
  started u := by
    rw [statusOf_init]
    split <;> simp [init]
  deliverOnce := Nat.zero_le 1
  afterAll := nofun

theorem inv_step {s s' : St} {e : Ev} (h : Inv s) (hs : step s e = some s') : Inv s' := by
  cases e with
  | start u =>
    refine guarded hs fun hp => ⟨List.nodup_cons.mpr ⟨?_, h.once⟩, fun v => ?_, h.deliverOnce,
      fun hd => nomatch allDone_status (h.afterAll hd) hp⟩
    · simp [h.started, hp]
    · rw [List.mem_cons, statusOf_set, h.started]
      by_cases e : v = u <;> simp [e, hp]
  | finish u =>
    refine guarded hs fun hp => ⟨h.once, fun v => ?_, h.deliverOnce,
      fun hd => allDone_set_done u _ (h.afterAll hd)⟩
    rw [statusOf_set, h.started]
    by_cases e : v = u <;> simp [e, hp]
  | deliver =>
    exact guarded hs fun hg =>
      ⟨h.once, h.started, Nat.le_refl 1, fun _ => (Bool.and_eq_true_iff.mp hg).1⟩

theorem isRun : IsRun step run := ⟨fun _ => rfl, fun _ _ _ => rfl⟩

theorem inv_reach {uids : List Nat} {es : List Ev} {s : St} (hr : run (init uids) es = some s) : Inv s :=
  isRun.invariant inv_step (inv_init uids) hr

/-- **each member's handler is invoked at most once** — in every run, for every completion order -/
theorem handler_once (uids : List Nat) (es : List Ev) (s : St) (hr : run (init uids) es = some s) (u : Nat) :
    invocations s u ≤ 1 :=
  List.nodup_iff_count.mp (inv_reach hr).once u

/-- **the reply is delivered at most once, and only after every handler of the message has returned** -/
theorem deliver_once_after_all (uids : List Nat) (es : List Ev) (s : St) (hr : run (init uids) es = some s) :
    s.delivered ≤ 1 ∧ (s.delivered = 1 → allDone s.members = true) :=
  ⟨(inv_reach hr).deliverOnce, (inv_reach hr).afterAll⟩

/-- **completeness at quiescence**: if nothing is enabled any more, every member has run exactly
once and the reply has been delivered exactly once -/
theorem quiescent_complete (uids : List Nat) (es : List Ev) (s : St) (hr : run (init uids) es = some s)
    (hq : enabled s = []) : allDone s.members = true ∧ s.delivered = 1 := by
  simp only [enabled, List.append_eq_nil_iff, List.filterMap_eq_nil_iff] at hq
  have hall : allDone s.members = true := by
    simp only [allDone, List.all_eq_true, beq_iff_eq]
    intro p hp
    have := hq.1 p hp
    cases hs : p.2 <;> simp [hs] at this ⊢
  have := (inv_reach hr).deliverOnce
  have h2 := hq.2
  simp [hall] at h2
  exact ⟨hall, by omega⟩

-- non-vacuity
example : (run (init [1, 2]) [.start 2, .start 1, .finish 1, .finish 2, .deliver]).map (·.delivered) = some 1 := by decide +kernel
example : run (init [1, 2]) [.start 1, .finish 1, .deliver] = none := by decide        -- not before all returned
example : run (init [1]) [.start 1, .start 1] = none := by decide                      -- never twice

/-! ### the reply batch can always be encoded (finding F17)

`deliver` sends the encoded batch or - if encoding fails - nothing, for any of the calls of that
inbound message. So "every call gets its response" needs the encoding to be total on what
`responses` builds. It is, because `responses` drops error data that cannot be encoded. -/

open Jrpc.Wire in
/-- a sanitised error always marshals -/
theorem sanitized_marshals (e : ErrVal) : (marshalError (sanitizeError e)).isSome = true := by
  unfold sanitizeError
  split
  · simp [marshalError]
  · simp only [marshalError]
    cases hd : e.data <;> simp_all

open Jrpc.Wire in
/-- it keeps the handler's code and message, and it keeps everything when the data is encodable -/
theorem sanitize_keeps (e : ErrVal) :
    (sanitizeError e).code = e.code ∧ (sanitizeError e).msg = e.msg ∧
    ((e.data = [] ∨ Jrpc.Json.valid e.data = true) → sanitizeError e = e) := by
  unfold sanitizeError
  split <;> simp_all

open Jrpc.Wire in
/-- whatever a handler returned, the entry `responses` builds from it has a reply object, under
the call's id -/
theorem replyMsg_sanitized (id : Jrpc.Json.Bytes) (batch : Bool) (o : ReplyOutcome) :
    ∃ m, replyMsg id batch (sanitizeOutcome o) = some m ∧ m.id = id := by
  cases o with
  | result r => exact ⟨_, rfl, rfl⟩
  | error e =>
    obtain ⟨t, ht⟩ := Option.isSome_iff_exists.mp (sanitized_marshals e)
    exact ⟨{ id := id, e := some t, batch := batch }, by simp [sanitizeOutcome, replyMsg, ht], rfl⟩

open Jrpc.Wire in
/-- **every reply batch built by `responses` encodes**, with one entry per call, in order, each
under its own id: whatever the handlers returned, one message is produced for the inbound message
(so `deliver` never drops the replies of the other calls of a batch because of one call's error
value) -/
theorem reply_batch_entries (batch : Bool) (rs : List (Jrpc.Json.Bytes × ReplyOutcome)) :
    ∃ ms, replyMsgs batch (builtReplies rs) = some ms ∧ ms.map (·.id) = rs.map (·.1) := by
  induction rs with
  | nil => exact ⟨[], rfl, rfl⟩
  | cons p rest ih =>
    obtain ⟨ms, hms, hids⟩ := ih
    obtain ⟨m, hm, hid⟩ := replyMsg_sanitized p.1 batch p.2
    exact ⟨m :: ms, by simp [builtReplies, replyMsgs, hm, hms], by simp [hid, hids]⟩

open Jrpc.Wire in
theorem reply_batch_encodes (batch : Bool) (rs : List (Jrpc.Json.Bytes × ReplyOutcome)) :
    (encodeReplies batch (builtReplies rs)).isSome = true := by
  obtain ⟨ms, hms, _⟩ := reply_batch_entries batch rs
  simp [encodeReplies, hms]

-- the mechanism of F17: without that step one unencodable error value loses the whole batch
open Jrpc.Wire in
example : encodeReplies true [([49], .error { code := 7, msg := [120], data := [123, 34, 97, 34, 58] }), ([50], .result [34, 111, 107, 34])] = none := by decide +kernel
open Jrpc.Wire in
example : (encodeReplies true (builtReplies [([49], .error { code := 7, msg := [120], data := [123, 34, 97, 34, 58] }), ([50], .result [34, 111, 107, 34])])).isSome = true := by decide +kernel

end Jrpc.Props.C01
