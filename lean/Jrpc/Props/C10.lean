import Jrpc.Model.Discipline
import Jrpc.Props.C01
/-! # C10 — channel discipline: one sender, one receiver, no Send/Close overlap -/
namespace Jrpc.Props.C10
open Jrpc.Discipline

structure Inv (s : St) : Prop where
  owned : ∀ p ∈ s.inOp, s.holder = some p.1
  single : s.inOp.length ≤ 1
  recvReader : ∀ g ∈ s.inRecv, g = s.reader
  recvSingle : s.inRecv.length ≤ 1

/-- the guard of `unlock` and `opBegin`: the holder of the mutex has no call in progress, so nobody has -/
theorem Inv.idle {s : St} {g : Nat} (h : Inv s)
    (hg : s.holder = some g ∧ s.inOp.all (fun p => p.1 ≠ g)) : s.inOp = [] :=
  List.eq_nil_iff_forall_not_mem.mpr fun p hp =>
    of_decide_eq_true (List.all_eq_true.mp hg.2 p hp) (Option.some.inj ((h.owned p hp).symm.trans hg.1))

theorem inv_step {s s' : St} {e : Ev} (h : Inv s) (hs : step s e = some s') : Inv s' := by
  cases e with
  | lock g =>
    exact guarded hs fun hn => { h with owned := fun p hp => nomatch (h.owned p hp).symm.trans hn }
  | unlock g => exact guarded hs fun hg => { h with owned := by simp [h.idle hg] }
  | opBegin g o =>
    exact guarded hs fun hg =>
      { h with owned := by simp [h.idle hg, hg.1], single := by simp [h.idle hg] }
  | opEnd g o =>
    exact guarded hs fun _ => { h with
      owned := fun p hp => h.owned p (List.mem_of_mem_erase hp)
      single := Nat.le_trans List.length_erase_le h.single }
  | recvBegin g =>
    refine guarded hs fun ⟨hr, hg⟩ => ?_
    have hi : s.inRecv = [] :=
      List.eq_nil_iff_forall_not_mem.mpr fun x hx => hg ((h.recvReader x hx).trans hr.symm ▸ hx)
    exact { h with recvReader := by simp [hi, hr], recvSingle := by simp [hi] }
  | recvEnd g =>
    exact guarded hs fun _ => { h with
      recvReader := fun x hx => h.recvReader x (List.mem_of_mem_erase hx)
      recvSingle := Nat.le_trans List.length_erase_le h.recvSingle }

theorem step_reader {s s' : St} {e : Ev} (hs : step s e = some s') : s'.reader = s.reader := by
  cases e <;> exact guarded (P := fun t => t.reader = s.reader) hs fun _ => rfl

theorem isRun : IsRun step run := ⟨fun _ => rfl, fun _ _ _ => rfl⟩

theorem inv_init (r : Nat) : Inv { reader := r } := ⟨nofun, Nat.zero_le 1, nofun, Nat.zero_le 1⟩

theorem inv_reach {r : Nat} {es : List Ev} {s : St} (hr : run { reader := r } es = some s) : Inv s :=
  isRun.invariant inv_step (inv_init r) hr

/-- **never two Send calls at once, never a Send overlapping a Close** -/
theorem no_overlapping_send_or_close (r : Nat) (es : List Ev) (s : St) (hr : run { reader := r } es = some s) :
    s.inOp.length ≤ 1 := (inv_reach hr).single

/-- **never two Recv calls at once**, and only the reader receives -/
theorem single_receiver (r : Nat) (es : List Ev) (s : St) (hr : run { reader := r } es = some s) :
    s.inRecv.length ≤ 1 ∧ ∀ g ∈ s.inRecv, g = r := by
  have hreader : s.reader = r :=
    isRun.invariant (P := fun s => s.reader = r) (fun h hs => (step_reader hs).trans h) rfl hr
  exact ⟨(inv_reach hr).recvSingle, fun g hg => hreader ▸ (inv_reach hr).recvReader g hg⟩

/-- a Send or Close in progress belongs to the goroutine that holds the mutex -/
theorem op_under_lock (r : Nat) (es : List Ev) (s : St) (hr : run { reader := r } es = some s) :
    ∀ p ∈ s.inOp, s.holder = some p.1 := (inv_reach hr).owned

-- non-vacuity: a legal interleaving, and an unserialised Send refused by the guards
example : (run { reader := 9 } [.recvBegin 9, .lock 1, .opBegin 1 .send, .opEnd 1 .send, .unlock 1, .lock 2, .opBegin 2 .close]).isSome = true := by decide +kernel
example : run { reader := 9 } [.lock 1, .opBegin 1 .send, .opBegin 2 .send] = none := by decide +kernel

/-! ### the reply to a callback is always a whole message (finding F18) -/

open Jrpc.Wire in
/-- whatever the `OnCallback` handler returned - a result, an error, an error whose data is not
JSON - the record handed to `Send` is the text of one reply object: it begins with
`{"jsonrpc":"2.0"` and ends with `}`; in particular it is never empty -/
theorem callback_reply_is_message (id : Jrpc.Json.Bytes) (o : ReplyOutcome) :
    ∃ m : OutMsg, callbackReplyBytes id o = toJSON m ∧ m.id = id ∧
      callbackReplyBytes id o ≠ [] := by
  obtain ⟨m, hm, hid⟩ := C01.replyMsg_sanitized id false o
  refine ⟨m, by simp [callbackReplyBytes, hm], hid, ?_⟩
  simp [callbackReplyBytes, hm, toJSON, prefixLit]

-- the mechanism of F18: without the sanitising step the reply to such a failure is the empty record
open Jrpc.Wire in
example : (match replyMsg [49] false (.error { code := 9, msg := [120], data := [123, 34] }) with
    | some m => toJSON m | none => []) = [] := by decide +kernel

end Jrpc.Props.C10
