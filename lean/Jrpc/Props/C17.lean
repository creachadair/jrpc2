import Jrpc.Model.Dispatch
/-! # C17 — method dispatch: exact names, first-dot service split, reserved rpc.* names -/
namespace Jrpc.Props.C17
open Jrpc.Dispatch

theorem split_prefix {s : Name} (h : dot ∉ s) (t : Name) :
    splitFirstDot (s ++ t) = (splitFirstDot t).map fun p => (s ++ p.1, p.2) := by
  induction s with
  | nil => simp
  | cons b r ih =>
    simp only [List.mem_cons, not_or] at h
    simp only [List.cons_append, splitFirstDot, if_neg (Ne.symm h.1), ih h.2]
    cases splitFirstDot t <;> rfl

/-- the split happens at the FIRST dot only: whatever `rest` contains -/
theorem split_first (s rest : Name) (h : dot ∉ s) :
    splitFirstDot (s ++ dot :: rest) = some (s, rest) := by
  simp [split_prefix h, splitFirstDot]

theorem split_none_iff (m : Name) : splitFirstDot m = none ↔ dot ∉ m := by
  refine ⟨fun h hm => ?_, fun h => by simpa [splitFirstDot] using split_prefix h []⟩
  obtain ⟨s, rest, rfl, hs⟩ := List.eq_append_cons_of_mem hm
  rw [split_first s rest hs] at h
  cases h

/-- `Map` matches the whole name: a hit returns the handler stored under exactly that name -/
theorem map_exact {H : Type} (es : List (Name × H)) (m : Name) (h : H) :
    mapAssign es m = some h → (m, h) ∈ es := by
  induction es with
  | nil => exact nofun
  | cons e r ih =>
    obtain ⟨k, v⟩ := e
    intro hl
    rw [mapAssign, lookup] at hl
    split at hl
    · next hk =>
      cases hl
      exact hk ▸ List.mem_cons_self
    · exact List.mem_cons_of_mem _ (ih hl)

theorem map_miss {H : Type} (es : List (Name × H)) (m : Name) (hm : ∀ e ∈ es, e.1 ≠ m) :
    mapAssign es m = none := by
  cases h : mapAssign es m with
  | none => rfl
  | some v => exact absurd rfl (hm _ (map_exact es m v h))

theorem map_hit {H : Type} (es : List (Name × H)) (m : Name) (h : H)
    (hnd : (es.map (·.1)).Nodup) (hin : (m, h) ∈ es) : mapAssign es m = some h := by
  induction es with
  | nil => nomatch hin
  | cons e r ih =>
    obtain ⟨k, v⟩ := e
    obtain ⟨hk, hr⟩ := List.nodup_cons.mp hnd
    rw [mapAssign, lookup]
    rcases List.mem_cons.mp hin with heq | hin
    · cases heq
      exact if_pos rfl
    · have hne : k ≠ m := fun e => hk (e ▸ List.mem_map_of_mem (f := (·.1)) hin)
      rw [if_neg hne]
      exact ih hr hin

theorem servicemap_first_dot {H : Type} (es : List (Name × Assigner H)) (s rest : Name)
    (h : dot ∉ s) :
    svcAssign es (s ++ dot :: rest) = (lookup s es).bind (fun a => a rest) := by
  unfold svcAssign
  rw [split_first s rest h]
  cases hl : lookup s es <;> simp [hl]

theorem no_dot_fails {H : Type} (es : List (Name × Assigner H)) (m : Name) (h : dot ∉ m) :
    svcAssign es m = none := by
  unfold svcAssign
  rw [(split_none_iff m).mpr h]

theorem unknown_service_fails {H : Type} (es : List (Name × Assigner H)) (s rest : Name)
    (h : dot ∉ s) (hs : lookup s es = none) : svcAssign es (s ++ dot :: rest) = none := by
  rw [servicemap_first_dot es s rest h, hs]; rfl

/-- nesting: a service map inside a service map splits the remainder again at ITS first dot -/
theorem servicemap_nested {H : Type} (outer inner : List (Name × Assigner H)) (s t rest : Name)
    (hs : dot ∉ s) (ht : dot ∉ t) (ho : lookup s outer = some (svcAssign inner)) :
    svcAssign outer (s ++ dot :: (t ++ dot :: rest)) = (lookup t inner).bind (fun a => a rest) := by
  rw [servicemap_first_dot outer s _ hs, ho]
  simp only [Option.bind]
  exact servicemap_first_dot inner t rest ht

/-- outside the gate the assigner decides -/
theorem serverAssign_ungated {H : Type} {b : Bool} {name : Name} (mux : Assigner H)
    (h : (b && hasPrefix reservedPrefix name) = false) :
    serverAssign b mux name = (match mux name with | some h => .user h | none => .notFound) := by
  simp only [serverAssign, h]; rfl

theorem builtin_gate {H : Type} (mux : Assigner H) (name : Name)
    (hp : hasPrefix reservedPrefix name = true) :
    serverAssign true mux name = (if name = rpcServerInfo then .builtinInfo else .notFound) := by
  simp [serverAssign, hp]

/-- with built-ins on, a reserved name never reaches the assigner, whatever the assigner maps it to -/
theorem reserved_withheld {H : Type} (mux mux' : Assigner H) (name : Name)
    (hp : hasPrefix reservedPrefix name = true) :
    serverAssign true mux name = serverAssign true mux' name := by
  rw [builtin_gate mux name hp, builtin_gate mux' name hp]

theorem unreserved_passthrough {H : Type} (b : Bool) (mux : Assigner H) (name : Name)
    (hp : hasPrefix reservedPrefix name = false) :
    serverAssign b mux name = (match mux name with | some h => .user h | none => .notFound) :=
  serverAssign_ungated mux (by rw [hp, Bool.and_false])

theorem disable_builtin_passthrough {H : Type} (mux : Assigner H) (name : Name) :
    serverAssign false mux name = (match mux name with | some h => .user h | none => .notFound) :=
  serverAssign_ungated mux (Bool.false_and _)

theorem hasPrefix_iff (p n : Name) : hasPrefix p n = true ↔ ∃ r, n = p ++ r := by
  induction p generalizing n with
  | nil => simp [hasPrefix]
  | cons a ps ih =>
    cases n with
    | nil => simp [hasPrefix]
    | cons b bs =>
      simp only [hasPrefix, Bool.and_eq_true, beq_iff_eq, ih, List.cons_append, List.cons.injEq]
      exact ⟨fun ⟨h, r, hr⟩ => ⟨r, h.symm, hr⟩, fun ⟨r, h, hr⟩ => ⟨h.symm, r, hr⟩⟩

/-- "rpc", "RPC.x", "xrpc." are not reserved; "rpc.", "rpc.x", "rpc..": are -/
theorem prefix_examples :
    hasPrefix reservedPrefix [114, 112, 99] = false ∧
    hasPrefix reservedPrefix [82, 80, 67, 46, 120] = false ∧
    hasPrefix reservedPrefix [120, 114, 112, 99, 46] = false ∧
    hasPrefix reservedPrefix [114, 112, 99, 46] = true ∧
    hasPrefix reservedPrefix [114, 112, 99, 46, 120] = true ∧
    hasPrefix reservedPrefix rpcServerInfo = true := by decide

theorem bytesLe_iff (a b : Name) : bytesLe a b = true ↔ a ≤ b := by
  induction a generalizing b with
  | nil => simp [bytesLe]
  | cons x xs ih =>
    cases b with
    | nil => simp [bytesLe]
    | cons y ys =>
      simp only [bytesLe, List.cons_le_cons_iff, ← ih]
      by_cases h1 : x < y
      · simp [h1]
      · by_cases h2 : y < x
        · simp [h1, h2, (UInt8.ne_of_lt h2).symm]
        · simp [UInt8.le_antisymm (UInt8.not_lt.mp h2) (UInt8.not_lt.mp h1)]

theorem bytesLe_total (a b : Name) : (bytesLe a b || bytesLe b a) = true := by
  simpa only [Bool.or_eq_true, bytesLe_iff] using List.le_total a b

theorem bytesLe_trans (a b c : Name) : bytesLe a b = true → bytesLe b c = true → bytesLe a c = true := by
  simpa only [bytesLe_iff] using List.le_trans

/-- `Names` is sorted (bytewise) and lists every composed name exactly as often as it occurs -/
theorem names_sorted_complete (l : List Name) :
    (sortNames l).Pairwise (fun a b => bytesLe a b = true) ∧ (sortNames l).Perm l :=
  ⟨List.pairwise_mergeSort (le := bytesLe) bytesLe_trans bytesLe_total l, List.mergeSort_perm l bytesLe⟩

theorem svcNames_sorted (es : List (Name × Option (List Name))) :
    (svcNames es).Pairwise (fun a b => bytesLe a b = true) := (names_sorted_complete _).1

theorem svcNames_complete (es : List (Name × Option (List Name))) (svc n : Name) (ns : List Name)
    (h1 : (svc, some ns) ∈ es) (h2 : n ∈ ns) : (svc ++ [dot] ++ n) ∈ svcNames es := by
  rw [svcNames, (names_sorted_complete _).2.mem_iff]
  exact List.mem_flatMap.mpr ⟨(svc, some ns), h1, List.mem_map.mpr ⟨n, h2, rfl⟩⟩

-- non-vacuity
example : svcAssign [([97], mapAssign [([98, 46, 99], 7)])] [97, 46, 98, 46, 99] = some 7 := by decide +kernel
example : serverAssign true (mapAssign [([114, 112, 99], 1)]) [114, 112, 99] = .user 1 := by decide +kernel
example : bytesLe [107, 118, 45, 114, 46, 103] [107, 118, 46, 103] = true := by decide  -- "kv-r.g" ≤ "kv.g"

end Jrpc.Props.C17
