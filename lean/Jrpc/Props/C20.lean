import Jrpc.Model.Loop
import Jrpc.Proofs.Basic
/-! # C20 — server.Loop: fresh service and exactly one Finish per connection; exits last -/
namespace Jrpc.Props.C20
open Jrpc.Loop

/-- per-connection bookkeeping that holds in every reachable state: one `newService` once past
acceptance, one `Finish` exactly in the last phase, closed by Loop exactly when the Assigner failed -/
def ConnInv (c : Conn) : Prop :=
  c.services = (if c.phase = .accepted then 0 else 1) ∧
  c.finishes = (if c.phase = .finished then 1 else 0) ∧
  c.closedByLoop = decide (c.phase = .failed)

def Inv (s : St) : Prop :=
  (∀ c ∈ s.conns, ConnInv c) ∧ (s.returned.isSome → s.acceptFailed.isSome ∧ s.conns.all done = true)

/-- a connection that is not done moves on: what the five per-connection events share. Loop has not
returned then, so its clause holds for want of a premise. -/
theorem Inv.move {s : St} (h : Inv s) {k : Nat} {c c' : Conn} (hk : s.conns[k]? = some c)
    (hnd : done c = false) (hc' : ConnInv c → ConnInv c') :
    Inv { s with conns := setConn s.conns k c' } := by
  have hm := List.mem_of_getElem? hk
  refine ⟨fun x hx => ?_, fun hret => ?_⟩
  · rcases List.mem_or_eq_of_mem_set hx with e | e
    · exact h.1 x e
    · exact e ▸ hc' (h.1 c hm)
  · have := List.all_eq_true.mp (h.2 hret).2 c hm
    simp [hnd] at this

theorem step_ret {s s' : St} (h : step s .ret = some s') :
    ∃ closing, s.acceptFailed = some closing ∧ s.conns.all done = true ∧
      s' = { s with returned := some (if closing then .nilErr else .err) } := by
  simp only [step] at h
  split at h
  · next closing hf =>
    simp only [Option.ite_none_right_eq_some, Option.some.injEq, Bool.and_eq_true] at h
    exact ⟨closing, hf, h.1.2, h.2.symm⟩
  · cases h

theorem inv_step {s s' : St} {e : Ev} (h : Inv s) (hs : step s e = some s') : Inv s' := by
  cases e with
  | accept =>
    refine guarded_not hs fun hf => ⟨fun x hx => ?_, fun hret => absurd (h.2 hret).1 hf⟩
    rcases List.mem_append.mp hx with e | e
    · exact h.1 x e
    · simp [List.mem_singleton.mp e, ConnInv]
  | svcNew k | srvExit k | finish k | watcherStop k | assigner k ok =>
    simp only [step] at hs
    split at hs
    · next c hk =>
      simp only [Option.ite_none_right_eq_some, Bool.and_eq_true, decide_eq_true_eq] at hs
      -- `hp`, the phase the event leaves, decides `done c` and both `ConnInv`s
      obtain ⟨hp, hs⟩ := hs
      try split at hs  -- `assigner` has an inner `if`
      all_goals
        cases hs
        exact h.move hk (by simp [done, hp]) (by simp +contextual [ConnInv, hp])
    · cases hs
  | ctxCancel =>
    cases hs
    exact h
  | acceptFail closing => exact guarded_not hs fun _ => ⟨h.1, fun hret => ⟨rfl, (h.2 hret).2⟩⟩
  | ret =>
    obtain ⟨closing, hf, hd, rfl⟩ := step_ret hs
    exact ⟨h.1, fun _ => ⟨by simp [hf], hd⟩⟩

theorem isRun : IsRun step run := ⟨fun _ => rfl, fun _ _ _ => rfl⟩

theorem inv_init : Inv {} := ⟨by simp, by simp⟩

theorem inv_reach {es : List Ev} {s : St} (hr : run {} es = some s) : Inv s :=
  isRun.invariant inv_step inv_init hr

/-- **one fresh service per accepted connection**: `newService` has been called exactly once for
every connection that got past acceptance, never twice, and never for a connection still queued -/
theorem fresh_service (es : List Ev) (s : St) (hr : run {} es = some s) :
    ∀ c ∈ s.conns, c.services ≤ 1 ∧ (c.phase ≠ .accepted → c.services = 1) := by
  intro c hc
  obtain ⟨hs, -, -⟩ := (inv_reach hr).1 c hc
  split at hs <;> simp [*]

/-- **exactly one Finish per started server, and only after it has exited**; a connection whose
Assigner failed gets no server, no Finish, and is closed by Loop -/
theorem finish_once_after_exit (es : List Ev) (s : St) (hr : run {} es = some s) :
    ∀ c ∈ s.conns, c.finishes ≤ 1 ∧ (c.finishes = 1 ↔ c.phase = .finished) ∧
      (c.phase = .failed → c.finishes = 0 ∧ c.closedByLoop = true) := by
  intro c hc
  obtain ⟨-, hf, hcl⟩ := (inv_reach hr).1 c hc
  split at hf <;> simp_all

/-- `Finish` is enabled only in the `exited` phase, i.e. after that server's `WaitStatus` returned -/
theorem finish_needs_exit (s : St) (k : Nat) (s' : St) (h : step s (.finish k) = some s') :
    ∃ c, s.conns[k]? = some c ∧ c.phase = .exited := by
  simp only [step] at h
  split at h
  · next c hk => exact ⟨c, hk, (Option.ite_none_right_eq_some.mp h).1⟩
  · cases h

/-- **Loop returns last**: when Loop has returned, every per-connection goroutine is done — each
started server has exited and been finished, each failed service's connection has been closed -/
theorem returns_last (es : List Ev) (s : St) (hr : run {} es = some s) (h : s.returned.isSome) :
    ∀ c ∈ s.conns, c.phase = .finished ∨ c.phase = .failed := by
  intro c hc
  have hd := List.all_eq_true.mp ((inv_reach hr).2 h).2 c hc
  simpa [done, or_comm] using hd

/-- **return value**: nil for a closed-listener error, the accepter's error otherwise -/
theorem return_value (s : St) (s' : St) (h : step s .ret = some s') :
    ∃ closing, s.acceptFailed = some closing ∧ s'.returned = some (if closing then .nilErr else .err) := by
  obtain ⟨closing, hf, -, rfl⟩ := step_ret h
  exact ⟨closing, hf, rfl⟩

/-- when the context ends, the watcher of every serving connection may stop its server -/
theorem ctx_stops_all (s : St) (k : Nat) (c : Conn) (hk : s.conns[k]? = some c) (hp : c.phase = .serving)
    (hctx : s.ctxDone = true) : ∃ s', step s (.watcherStop k) = some s' := by
  simp [step, hk, hctx, hp]

-- non-vacuity
example : ((run {} [.accept, .accept, .svcNew 0, .assigner 0 true, .svcNew 1, .assigner 1 false, .ctxCancel, .watcherStop 0,
    .acceptFail true, .srvExit 0, .finish 0, .ret]).map (·.returned)) = some (some .nilErr) := by decide +kernel
example : run {} [.accept, .svcNew 0, .assigner 0 true, .acceptFail false, .ret] = none := by decide  -- not before the server is finished

end Jrpc.Props.C20
