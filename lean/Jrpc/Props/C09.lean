import Jrpc.Model.Push
import Jrpc.Proofs.Table
/-! # C09 — server push: delivery, matching, timeout, shutdown -/
namespace Jrpc.Props.C09
open Jrpc.Push

/-- **without AllowPush nothing is transmitted**: both calls are refused and the outbound history
is unchanged; likewise after the connection has ended -/
theorem push_gate (s : St) (h : s.allowPush = false) :
    (step s .pushCall).sent = s.sent ∧ (step s .pushNotify).sent = s.sent ∧
    (step s .pushCall).refused = .unsupported :: s.refused ∧ (step s .pushNotify).refused = .unsupported :: s.refused := by
  simp [step, h]

theorem push_after_close (s : St) (ha : s.allowPush = true) (h : s.running = false) :
    (step s .pushCall).sent = s.sent ∧ (step s .pushNotify).sent = s.sent ∧
    (step s .pushCall).refused = .connClosed :: s.refused ∧ (step s .pushNotify).refused = .connClosed :: s.refused := by
  simp [step, ha, h]

/-- a Notify transmits exactly one id-less request; a Callback exactly one request with a fresh id -/
theorem notify_one_idless (s : St) (ha : s.allowPush = true) (hr : s.running = true) :
    (step s .pushNotify).sent = .notify :: s.sent ∧ (step s .pushCall).sent = .call s.nextId :: s.sent := by
  simp [step, ha, hr]

def Inv (s : St) : Prop := Table.Inv s.nextId s.table s.slots

theorem inv_init (a : Bool) : Inv { allowPush := a } := Table.Inv.empty

theorem inv_step (e : Ev) {s : St} (h : Inv s) : Inv (step s e) := by
  cases e with
  | pushCall | pushCallLost =>
    simp only [step]
    split
    · exact h
    · split
      · exact h
      · exact h.push
  | pushNotify =>
    simp only [step]
    split
    · exact h
    · split <;> exact h
  | peerReply id _ | ctxDone id =>
    simp only [step]
    split
    · exact h.complete ‹_› _
    · exact h
  | stop =>
    simp only [step]
    split
    · exact h
    · exact h.drain _

theorem inv_run (es : List Ev) {s : St} (h : Inv s) : Inv (run s es) :=
  invariant_total (fun _ => rfl) (fun _ _ _ => rfl) inv_step es h

/-- a callback whose request could not be sent is told so at once and transmits nothing; its id is
spent all the same (never handed out again), and it is outstanding until its context ends or the
server stops, like any other -/
theorem lost_request_returns_at_once (s : St) (ha : s.allowPush = true) (hr : s.running = true) :
    (step s .pushCallLost).refused = .sendFailed :: s.refused ∧ (step s .pushCallLost).sent = s.sent ∧
    (step s .pushCallLost).nextId = s.nextId + 1 ∧ s.nextId ∈ (step s .pushCallLost).table := by
  simp [step, ha, hr]

/-- **callback ids are unique among outstanding callbacks and never reused** -/
theorem callback_id_fresh (a : Bool) (es : List Ev) :
    let s := run { allowPush := a } es
    s.table.Nodup ∧ (∀ i ∈ s.table, i < s.nextId) ∧ (∀ p ∈ s.slots, p.1 < s.nextId) := by
  have h := inv_run es (inv_init a)
  exact ⟨h.pendNodup, h.pendFresh, h.slotFresh⟩

/-- **a callback's slot is written exactly once** (by the reply interception, the watcher or the
stop — whichever removes the id from the table), so the 1-buffered slot never blocks and
`Callback` returns exactly once -/
theorem slot_written_once (a : Bool) (es : List Ev) :
    ((run { allowPush := a } es).slots.map (·.1)).Nodup := (inv_run es (inv_init a)).slotOnce

/-- **never another callback's reply**: a reply payload lands in the slot of the id it bears -/
theorem never_foreign_reply (s : St) (id p : Nat) (j : Nat) (q : Nat)
    (h : (j, Res.reply q) ∈ (step s (.peerReply id p)).slots) :
    (j, Res.reply q) ∈ s.slots ∨ (j = id ∧ q = p ∧ id ∈ s.table) := by
  by_cases hm : id ∈ s.table <;> simp_all [step, or_comm]

/-- **a late, duplicate or unsolicited reply is discarded**: it completes nothing and provokes no
outbound message -/
theorem late_reply_discarded (s : St) (id p : Nat) (h : id ∉ s.table) : step s (.peerReply id p) = s := by
  simp [step, h]

/-- the context watcher after an answer does nothing -/
theorem watcher_after_reply_noop (s : St) (id : Nat) (h : id ∉ s.table) : step s (.ctxDone id) = s := by
  simp [step, h]

/-- Stop ends every outstanding callback with an error and refuses later pushes -/
theorem stop_ends_callbacks (s : St) (hr : s.running = true) :
    (step s .stop).table = [] ∧ (∀ i ∈ s.table, (i, Res.ctxErr) ∈ (step s .stop).slots) ∧ (step s .stop).running = false := by
  simp +contextual [step, hr]

/-- reply interception does not depend on the dispatcher: it is enabled in every state (the
machine has no guard on it), in particular while request dispatch is parked behind an unfinished
notification — so a notification handler may itself await a callback -/
theorem reply_delivered_while_parked (s : St) (id p : Nat) (h : id ∈ s.table) :
    result (step s (.peerReply id p)) id = some (.reply p) := by
  simp [step, h, result]

-- non-vacuity: reply vs timeout race, late reply, stop
example : (run { allowPush := true } [.pushCall, .pushCall, .peerReply 2 7, .ctxDone 1, .peerReply 1 9, .peerReply 2 8]).slots
    = [(1, .ctxErr), (2, .reply 7)] := by decide +kernel

end Jrpc.Props.C09
