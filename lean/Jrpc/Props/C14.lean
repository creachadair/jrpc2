import Jrpc.Proofs.Errors
/-! # C14 — errors keep their code, message and data from handler to caller -/
namespace Jrpc.Props.C14
open Jrpc.Errors

/-- `ErrorCode(c.Err()) == c` for every code other than `NoError`. -/
theorem code_err_roundtrip (c : Code) (h : c ≠ NoError) : errorCode (codeErr c) = c := by
  simp [codeErr, h, errorCode, firstCoder]

/-- `NoError.Err()` is nil and classifies as `NoError`. -/
theorem code_err_noerror : codeErr NoError = none ∧ errorCode none = NoError := by
  simp [codeErr, errorCode]

/-- The classification of the caller's error equals that of the handler's error, for every error
tree — except the one documented remapping: an error that is not itself an `*Error` but whose
`ErrCoder` reports `NoError` is sent as `InternalError`. -/
theorem errorcode_end_to_end (e : Err) (h : errorCode (some e) ≠ NoError) :
    errorCode (some (fromWire (toWire e))) = errorCode (some e) := by
  rw [errorCode_fromWire, toWire_code h]

/-- Top-level `*Error` with `NoError` code also keeps it (no remap for `*Error`). -/
theorem jerr_code_always_kept (c : Code) (m : String) (d : Option String) :
    (toWire (.jerr c m d)).code = c := rfl

/-- The remapping itself: a non-`*Error` whose classification is `NoError` goes out as InternalError. -/
theorem noerror_coder_is_internal (e : Err) (hj : ∀ c m d, e ≠ .jerr c m d)
    (h : errorCode (some e) = NoError) : (toWire e).code = InternalError := by
  rw [toWire_of_not_jerr hj, if_neg (not_not_intro h)]

/-- An `*Error`'s code, message and data arrive unchanged (codes other than the two context codes,
which are covered by `ctx_sentinels_preserved`). -/
theorem error_fields_preserved (c : Code) (m : String) (d : Option String)
    (h1 : c ≠ Cancelled) (h2 : c ≠ DeadlineExceeded) :
    fromWire (toWire (.jerr c m d)) = .jerr c m d :=
  fromWire_other (w := ⟨c, m, d⟩) h1 h2

/-- `context.Canceled` / `context.DeadlineExceeded`, also wrapped or joined, surface on the client
as exactly those sentinels. -/
theorem ctx_sentinels_preserved (e : Err) :
    (errorCode (some e) = Cancelled → fromWire (toWire e) = .canceled) ∧
    (errorCode (some e) = DeadlineExceeded → fromWire (toWire e) = .deadline) := by
  constructor <;> intro h
  · exact fromWire_cancelled (by rw [toWire_code (h ▸ by decide), h])
  · exact fromWire_deadline (by rw [toWire_code (h ▸ by decide), h])

/-- Wrapped / joined context errors do classify as the context codes (the hypothesis of
`ctx_sentinels_preserved` is met by every tree without an `ErrCoder` that contains the sentinel). -/
theorem wrapped_canceled_classified (e : Err) (h1 : firstCoder e = none) (h2 : hasCanceled e = true) :
    errorCode (some e) = Cancelled := by
  simp [errorCode, h1, h2]

/-- A result that cannot be marshalled becomes an error response — never a result, never nothing. -/
theorem unmarshalable_result_is_error (why : String) :
    ∃ w, serverReply (.unmarshalable why) = .error w ∧ w.code = SystemError := by
  exact ⟨_, rfl, rfl⟩

/-- Every handler failure becomes an error reply; every success a result reply. -/
theorem reply_kind (o : Outcome) :
    (∃ r, o = .ok r ∧ serverReply o = .result r) ∨ (∃ w, serverReply o = .error w) := by
  cases o with
  | ok r => exact Or.inl ⟨r, rfl, rfl⟩
  | unmarshalable w => exact Or.inr ⟨_, rfl⟩
  | fail e => exact Or.inr ⟨_, rfl⟩

/-- `WithData` leaves code and message alone and returns the receiver itself when there is
nothing to attach (aliasing of the receiver's memory is checked by the correspondence run). -/
theorem withData_pure (e : WireErr) (v : Option (Option String)) :
    (withData e v).code = e.code ∧ (withData e v).msg = e.msg ∧
    ((v = none ∨ v = some none) → withData e v = e) := by
  cases v with
  | none => simp [withData]
  | some o => cases o <;> simp [withData]

/-- The nine predefined codes are pairwise distinct. -/
theorem codes_distinct :
    [ParseError, InvalidRequest, MethodNotFound, InvalidParams, InternalError, NoError,
     SystemError, Cancelled, DeadlineExceeded].Nodup := by decide

-- non-vacuity: concrete trees meeting the hypotheses
example : errorCode (some (.wrap "w" (.join (.plain "p") .canceled))) = Cancelled := by decide +kernel
example : errorCode (some (.wrap "w" (.coder 7 ""))) ≠ NoError := by decide +kernel
example : errorCode (some (.wrap "w" (.jerr NoError "" none))) = NoError := by decide +kernel

end Jrpc.Props.C14
