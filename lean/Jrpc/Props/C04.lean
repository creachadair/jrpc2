import Jrpc.Model.Client
import Jrpc.Proofs.Table
/-! # C04 / C05 — client: replies matched by id; every operation completes exactly once -/
namespace Jrpc.Props.C04
open Jrpc.Client

theorem idsFrom_eq_range' (k n : Nat) : idsFrom k n = List.range' k n := by
  induction n generalizing k with
  | zero => rfl
  | succ m ih => rw [idsFrom, ih, List.range'_succ]

theorem idsFrom_nodup (k n : Nat) : (idsFrom k n).Nodup := idsFrom_eq_range' k n ▸ List.nodup_range' 1

/-- the requests form a write-once table; ids handed out and not yet sent are below the counter
and not in the table; the OnCancel hook has run only for requests completed without a reply -/
structure Inv (s : St) : Prop where
  table : Table.Inv s.nextId s.pending s.slots
  allocFresh : ∀ i ∈ s.allocated, i < s.nextId
  allocNew : ∀ i ∈ s.allocated, i ∉ Table.ids s.pending s.slots
  cancelUnanswered : ∀ i ∈ s.onCancel, ∃ r, (i, r) ∈ s.slots ∧ ∀ p, r ≠ .reply p
  causeOnce : s.stopCauses.length ≤ 1 ∧ (s.stopped = true ↔ s.stopCauses.length = 1)

theorem inv_init : Inv {} := ⟨Table.Inv.empty, nofun, nofun, nofun, by simp⟩

/-- a pending request is completed with `r`: what `deliver` and `ctxDone` share -/
theorem Inv.complete {s : St} {id : Nat} (h : Inv s) (hm : id ∈ s.pending) (r : Res) :
    Inv { s with pending := s.pending.erase id, slots := (id, r) :: s.slots } :=
  { h with
    table := h.table.complete hm r
    allocNew := fun i hi hx => h.allocNew i hi ((Table.ids_complete hm r).mem_iff.mp hx)
    cancelUnanswered := fun i hi =>
      (h.cancelUnanswered i hi).imp fun _ hr => ⟨List.mem_cons_of_mem _ hr.1, hr.2⟩ }

theorem inv_step (e : Ev) {s : St} (h : Inv s) : Inv (step s e) := by
  cases e with
  | alloc =>
    exact { h with
      table := h.table.mono (Nat.le_succ _)
      allocFresh := List.forall_mem_cons.mpr
        ⟨Nat.lt_succ_self _, fun i hi => Nat.lt_succ_of_lt (h.allocFresh i hi)⟩
      allocNew := List.forall_mem_cons.mpr ⟨fun hm => Nat.lt_irrefl _ (h.table.fresh _ hm), h.allocNew⟩ }
  | send ids ok =>
    simp only [step]
    split
    · exact h
    · next hg =>
      simp only [Bool.not_eq_true', Bool.not_eq_false, Bool.and_eq_true, List.all_eq_true,
        decide_eq_true_eq] at hg
      obtain ⟨hall, hnd⟩ := hg
      -- the ids leave `allocated` in every case; they are registered only if the Send succeeds
      have hsub : ∀ i ∈ s.allocated.filter (· ∉ ids), i ∈ s.allocated ∧ i ∉ ids := by simp
      have h1 : Inv { s with allocated := s.allocated.filter (· ∉ ids) } :=
        { h with
          allocFresh := fun i hi => h.allocFresh i (hsub i hi).1
          allocNew := fun i hi => h.allocNew i (hsub i hi).1 }
      split
      · exact h1
      · split
        · exact { h1 with }
        · exact { h1 with
            table := h.table.register hnd fun i hi =>
              ⟨h.allocFresh i (hall i hi), h.allocNew i (hall i hi)⟩
            allocNew := fun i hi => by
              rw [Table.ids_append, List.mem_append]
              exact not_or.mpr ⟨(hsub i hi).2, h.allocNew i (hsub i hi).1⟩ }
  | deliver id p =>
    simp only [step]
    split
    · exact h.complete ‹_› _
    · exact h
  | ctxDone id =>
    simp only [step]
    split
    · have h1 := h.complete ‹id ∈ s.pending› (if s.stopped then .stopErr else .ctxErr)
      exact { h1 with
        cancelUnanswered := List.forall_mem_cons.mpr
          ⟨⟨_, List.mem_cons_self, by split <;> simp⟩, h1.cancelUnanswered⟩ }
    · exact h
  | stop c =>
    simp only [step]
    split
    · exact h
    · exact { h with causeOnce := by simp }

theorem inv_run (es : List Ev) {s : St} (h : Inv s) : Inv (run s es) :=
  invariant_total (fun _ => rfl) (fun _ _ _ => rfl) inv_step es h

/-- **ids are never shared by two requests in flight** (and never reused): the counter only grows -/
theorem ids_unique (es : List Ev) :
    (run {} es).pending.Nodup ∧ (∀ i ∈ (run {} es).pending, i < (run {} es).nextId) :=
  ⟨(inv_run es inv_init).table.pendNodup, (inv_run es inv_init).table.pendFresh⟩

/-- **each request's slot is written exactly once**, whatever the peer sends (duplicates, unknown
ids, any order or grouping) and whenever contexts end or the client stops: so `wait` never blocks
on a full slot, every operation completes exactly once, and each reply is consumed by at most one
request -/
theorem slot_written_once (es : List Ev) : ((run {} es).slots.map (·.1)).Nodup :=
  (inv_run es inv_init).table.slotOnce

/-- **matched by id**: the reply a call completes with is a member that bore that call's id and
arrived while the call was pending -/
theorem matched_by_id (s : St) (id p j q : Nat) (h : (j, Res.reply q) ∈ (step s (.deliver id p)).slots) :
    (j, Res.reply q) ∈ s.slots ∨ (j = id ∧ q = p ∧ id ∈ s.pending) := by
  by_cases hm : id ∈ s.pending <;> simp_all [step, or_comm]

/-- a duplicate reply, a reply with an unknown id, or one arriving after the context ended is discarded -/
theorem unknown_or_duplicate_discarded (s : St) (id p : Nat) (h : id ∉ s.pending) : step s (.deliver id p) = s := by
  simp [step, h]

/-- **`Batch` keeps spec order**: the ids of the call entries are allocated consecutively in spec
order (so the slice of responses, built in that order with notifications omitted, is in spec order) -/
theorem batch_order (start : Nat) (notify : List Bool) :
    (batchIds start notify).Pairwise (· < ·) ∧ (batchIds start notify).length = (notify.filter (!·)).length := by
  rw [batchIds, idsFrom_eq_range']
  exact ⟨List.pairwise_lt_range' 1, List.length_range'⟩

/-! ### C05 -/

/-- **a stopped client transmits nothing**: operations fail immediately -/
theorem stopped_no_transmit (s : St) (ids : List Nat) (ok : Bool) (h : s.stopped = true) :
    (step s (.send ids ok)).transmitted = s.transmitted ∧ (step s (.send ids ok)).pending = s.pending := by
  simp only [step, h, if_true]
  split <;> exact ⟨rfl, rfl⟩

/-- a failed Send registers nothing (no zombie that would never be fulfilled) -/
theorem failed_send_registers_nothing (s : St) (ids : List Nat) (h : s.stopped = false) :
    (step s (.send ids false)).pending = s.pending ∧ (step s (.send ids false)).transmitted = s.transmitted := by
  simp only [step, h, Bool.false_eq_true, if_false, Bool.not_false, if_true]
  split <;> exact ⟨rfl, rfl⟩

/-- **OnCancel runs only for requests that ended without a reply**: every id handed to the hook
has a slot holding a context / stop error, never a reply -/
theorem oncancel_iff_unanswered (es : List Ev) (i : Nat) (hi : i ∈ (run {} es).onCancel) :
    ∃ r, (i, r) ∈ (run {} es).slots ∧ ∀ p, r ≠ .reply p :=
  (inv_run es inv_init).cancelUnanswered i hi

/-- …and at most once per request (the hook is scheduled by the one writer of the slot) -/
theorem answered_never_cancelled (s : St) (id : Nat) (h : id ∉ s.pending) :
    (step s (.ctxDone id)).onCancel = s.onCancel := by simp [step, h]

/-- **OnStop runs once, with the first cause** -/
theorem onstop_once_first_cause (es : List Ev) :
    (run {} es).stopCauses.length ≤ 1 ∧ ((run {} es).stopped = true ↔ (run {} es).stopCauses.length = 1) :=
  (inv_run es inv_init).causeOnce

theorem first_cause_kept (s : St) (c : Nat) (h : s.stopped = true) : step s (.stop c) = s := by
  simp [step, h]

/-- what a request completes with: the reply if it was delivered first, the context's own error
if the context ended first, a stop error if the client stopped first -/
theorem completion_value (s : St) (id : Nat) (h : id ∈ s.pending) :
    (∀ p, result (step s (.deliver id p)) id = some (.reply p)) ∧
    result (step s (.ctxDone id)) id = some (if s.stopped then .stopErr else .ctxErr) := by
  simp [step, h, result]

-- non-vacuity
example : (run {} [.alloc, .alloc, .send [1, 2] true, .deliver 2 7, .deliver 2 8, .ctxDone 1, .deliver 1 9, .stop 5, .alloc, .send [3] true]).slots
    = [(1, .ctxErr), (2, .reply 7)] := by decide +kernel

end Jrpc.Props.C04
