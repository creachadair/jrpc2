import Jrpc.Model.Sem
import Jrpc.Proofs.Basic
/-! # C06 — handler concurrency stays within the limit and is work-conserving -/
namespace Jrpc.Props.C06
open Jrpc.Sem

structure Inv (s : St) : Prop where
  bound : s.holding.length ≤ s.limit
  conserving : s.holding.length < s.limit → s.waiters = []
  goneOut : ∀ u ∈ s.gone, u ∉ s.holding ∧ u ∉ s.waiters
  nodupW : s.waiters.Nodup
  disjoint : ∀ u ∈ s.waiters, u ∉ s.holding

theorem grant_limit (fuel : Nat) (s : St) : (grant fuel s).limit = s.limit := by
  fun_induction grant fuel s <;> simp_all

theorem grant_gone (fuel : Nat) (s : St) : (grant fuel s).gone = s.gone := by
  fun_induction grant fuel s <;> simp_all

/-- granting keeps the bound, keeps `gone` tasks out, and — given enough fuel — leaves no waiter
while a unit is free -/
theorem grant_inv {fuel : Nat} {s : St}
    (hb : s.holding.length ≤ s.limit) (hg : ∀ u ∈ s.gone, u ∉ s.holding ∧ u ∉ s.waiters)
    (hn : s.waiters.Nodup) (hd : ∀ u ∈ s.waiters, u ∉ s.holding) (hf : s.waiters.length ≤ fuel) :
    Inv (grant fuel s) := by
  fun_induction grant fuel s with
  | case1 s => exact ⟨hb, fun _ => List.length_eq_zero_iff.mp (Nat.le_zero.mp hf), hg, hn, hd⟩
  | case2 fuel s w ws hw hl ih =>
    rw [hw] at hg hn hd hf
    have ⟨hw', hn'⟩ := List.nodup_cons.mp hn
    apply ih
    · rw [List.length_append]
      exact hl
    · intro u hu
      simpa [and_assoc] using hg u hu
    · exact hn'
    · intro u hu
      simp only [List.mem_append, List.mem_singleton, not_or]
      exact ⟨hd u (List.mem_cons_of_mem _ hu), fun e => hw' (e ▸ hu)⟩
    · exact Nat.le_of_succ_le_succ hf
  | case3 fuel s w ws hw hl => exact ⟨hb, fun h => absurd h hl, hg, hn, hd⟩
  | case4 fuel s hw => exact ⟨hb, fun _ => hw, hg, hn, hd⟩

theorem inv_init (limit : Nat) : Inv (init limit) :=
  ⟨Nat.zero_le _, fun _ => rfl, nofun, List.nodup_nil, nofun⟩

theorem inv_step {s s' : St} {e : Ev} (h : Inv s) (hs : step s e = some s') : Inv s' := by
  cases e with
  | acquire u =>
    simp only [step, Option.ite_none_left_eq_some, not_or] at hs
    obtain ⟨⟨hh, hw, hg, -⟩, hs⟩ := hs
    split at hs <;> cases hs
    · next hc =>
      refine ⟨?_, fun _ => hc.2, fun x hx => ?_, h.nodupW, by simp [hc.2]⟩
      · rw [List.length_append]
        exact hc.1
      · have := h.goneOut x hx
        simp only [List.mem_append, List.mem_singleton, not_or]
        exact ⟨⟨this.1, fun e => hg (e ▸ hx)⟩, this.2⟩
    · next hc =>
      refine ⟨h.bound, fun hl => absurd ⟨hl, h.conserving hl⟩ hc, fun x hx => ?_, ?_, fun x hx => ?_⟩
      · have := h.goneOut x hx
        simp only [List.mem_append, List.mem_singleton, not_or]
        exact ⟨this.1, this.2, fun e => hg (e ▸ hx)⟩
      · exact List.nodup_append.mpr ⟨h.nodupW, List.nodup_cons.mpr ⟨nofun, .nil⟩,
          fun a ha b hb e => hw (e.trans (List.mem_singleton.mp hb) ▸ ha)⟩
      · rcases List.mem_append.mp hx with hx | hx
        · exact h.disjoint x hx
        · exact List.mem_singleton.mp hx ▸ hh
  | acquireDead u =>
    simp only [step, Option.ite_none_left_eq_some, not_or, Option.some.injEq] at hs
    obtain ⟨⟨hh, hw, -, -⟩, rfl⟩ := hs
    exact { h with goneOut := List.forall_mem_cons.mpr ⟨⟨hh, hw⟩, h.goneOut⟩ }
  | abandon u =>
    refine guarded hs fun hu => ?_
    refine grant_inv h.bound (List.forall_mem_cons.mpr ⟨⟨h.disjoint u hu, ?_⟩, fun x hx => ?_⟩)
      (h.nodupW.erase u) (fun x hx => h.disjoint x (List.mem_of_mem_erase hx)) (Nat.le_refl _)
    · exact fun hm => ((List.Nodup.mem_erase_iff h.nodupW).mp hm).1 rfl
    · exact ⟨(h.goneOut x hx).1, fun hm => (h.goneOut x hx).2 (List.mem_of_mem_erase hm)⟩
  | finish u =>
    refine guarded hs fun hu => ?_
    refine grant_inv (Nat.le_trans List.length_erase_le h.bound) (fun x hx => ?_) h.nodupW
      (fun x hx hm => h.disjoint x hx (List.mem_of_mem_erase hm)) (Nat.le_refl _)
    exact ⟨fun hm => (h.goneOut x hx).1 (List.mem_of_mem_erase hm), (h.goneOut x hx).2⟩

theorem step_limit {s s' : St} {e : Ev} (hs : step s e = some s') : s'.limit = s.limit := by
  cases e
  all_goals
    -- `hs` becomes `guard ∧ t = s'`, `t` a record update of `s`, a `grant` of one, or an `if` between two
    simp only [step, Option.ite_none_left_eq_some, Option.ite_none_right_eq_some, ← apply_ite some,
      Option.some.injEq] at hs
    obtain ⟨-, rfl⟩ := hs
    simp only [apply_ite St.limit, grant_limit, ite_self]

theorem isRun : IsRun step run := ⟨fun _ => rfl, fun _ _ _ => rfl⟩

theorem inv_reach {limit : Nat} {es : List Ev} {s : St} (hr : run (init limit) es = some s) : Inv s :=
  isRun.invariant inv_step (inv_init limit) hr

theorem limit_reach {limit : Nat} {es : List Ev} {s : St} (hr : run (init limit) es = some s) :
    s.limit = limit :=
  isRun.invariant (P := fun s => s.limit = limit) (fun h hs => (step_limit hs).trans h) rfl hr

/-- **at no instant do more handlers execute than the limit allows**, for every limit and every
history of acquisitions, completions and cancellations -/
theorem running_le_limit (limit : Nat) (es : List Ev) (s : St) (hr : run (init limit) es = some s) :
    s.holding.length ≤ limit := limit_reach hr ▸ (inv_reach hr).bound

/-- **work-conserving**: whenever fewer than the limit are executing, nobody is waiting -/
theorem work_conserving (limit : Nat) (es : List Ev) (s : St) (hr : run (init limit) es = some s)
    (hfree : s.holding.length < limit) : s.waiters = [] :=
  (inv_reach hr).conserving (limit_reach hr ▸ hfree)

/-- a task that gave up waiting (its context ended) never holds a unit afterwards — its handler
never runs; it is answered with the context's error -/
theorem cancelled_waiter_never_runs (limit : Nat) (es : List Ev) (s : St)
    (hr : run (init limit) es = some s) (u : Nat) (hu : u ∈ s.gone) : u ∉ s.holding ∧ u ∉ s.waiters :=
  (inv_reach hr).goneOut u hu

/-- a released request with a live context always gets in line: `acquire` is enabled for any fresh task -/
theorem acquire_enabled (s : St) (u : Nat) (h : u ∉ s.holding ∧ u ∉ s.waiters ∧ u ∉ s.gone ∧ u ∉ s.finished) :
    ∃ s', step s (.acquire u) = some s' := by
  rw [step, if_neg (by simp [h])]
  split <;> exact ⟨_, rfl⟩

/-- the option's floor and default: values < 1 (or nil options) mean the number of CPUs -/
theorem concurrency_floor (sNil : Bool) (conc ncpu : Int) (h : 1 ≤ ncpu) : 1 ≤ concurrency sNil conc ncpu := by
  unfold concurrency
  split <;> simp_all <;> omega

-- non-vacuity
example : (run (init 2) [.acquire 1, .acquire 2, .acquire 3, .finish 1]).map (fun s => (s.holding, s.waiters)) = some ([2, 3], []) := by decide +kernel
example : (run (init 1) [.acquire 1, .acquire 2, .abandon 2, .finish 1]).map (fun s => (s.holding, s.gone)) = some ([], [2]) := by decide +kernel

end Jrpc.Props.C06
