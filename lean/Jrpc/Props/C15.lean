import Jrpc.Model.Handler
import Jrpc.Proofs.Basic
/-! # C15 / C16 — handler.New/Check/Wrap, Positional, Args, Obj -/
namespace Jrpc.Props.C15
open Jrpc.Handler
open Jrpc.Json (Bytes)

theorem length_one_or_two {α : Type} {l : List α} (h : 1 ≤ l.length ∧ l.length ≤ 2) :
    (∃ a, l = [a]) ∨ ∃ a b, l = [a, b] :=
  match l, h with
  | [a], _ => .inl ⟨a, rfl⟩
  | [a, b], _ => .inr ⟨a, b, rfl⟩
  | [], h => absurd h.1 (by simp)
  | _ :: _ :: _ :: _, h => absurd h.2 (by simp)

/-- the tests a signature has passed when `Check` accepts it -/
theorem check_some {s : Sig} {info : Info} (h : check s = some info) :
    s.isFunc = true ∧ (1 ≤ s.ins.length ∧ s.ins.length ≤ 2) ∧ s.ins.head? = some .ctx ∧ s.variadic = false ∧
      (1 ≤ s.outs.length ∧ s.outs.length ≤ 2) ∧ (s.outs.length = 2 → s.outs[1]? = some .err) := by
  simp only [check, Option.ite_none_left_eq_some] at h
  obtain ⟨hf, hi, hc, hv, ho, he, -⟩ := h
  simp only [Bool.or_eq_true, Bool.and_eq_true, decide_eq_true_eq] at hi ho he
  exact ⟨by simpa using hf, by omega, by simpa using hc, by simpa using hv, by omega,
    fun h2 => by simpa [h2] using he⟩

/-- **Check accepts exactly the documented signature schemes** and rejects every other value -/
theorem check_iff_documented (s : Sig) : (check s).isSome ↔ Documented s := by
  constructor
  · intro h
    obtain ⟨info, h⟩ := Option.isSome_iff_exists.mp h
    obtain ⟨isF, ins, v, outs⟩ := s
    obtain ⟨rfl, hi, hc, rfl, ho, he⟩ := check_some h
    obtain ⟨a, rfl⟩ | ⟨a, x, rfl⟩ := length_one_or_two hi
    all_goals obtain ⟨y, rfl⟩ | ⟨y, z, rfl⟩ := length_one_or_two ho
    all_goals cases hc
    · exact .noArgVal y
    · cases he rfl
      exact .noArgValErr y
    · exact .argVal x y
    · cases he rfl
      exact .argValErr x y
  · intro h
    cases h <;> rfl

/-- a variadic function is never accepted -/
theorem variadic_rejected (s : Sig) (h : s.variadic = true) : check s = none := by
  cases h' : check s with
  | none => rfl
  | some info => simp [(check_some h').2.2.2.1] at h

/-- **the function is called exactly once with the decoded params, or not at all with
InvalidParams**: the adapter's action is one of a single call (no argument / the request / the
zero value / the value decoded from exactly one text) or a refusal — there is no path that calls
twice or calls after a failed translation -/
theorem wrap_calls_once_or_invalid (i : Info) (o : Opts) (p : Bytes) :
    match wrapAction i o p with
    | .noParamsError => i.hasArg = false ∧ p ≠ []
    | .callNoArg => i.hasArg = false ∧ p = []
    | .callReq => i.hasArg = true ∧ i.argIsReq = true
    | .callZero => i.hasArg = true ∧ p = []
    | .decode _ t => i.hasArg = true ∧ p ≠ [] ∧ (t = p ∨ (o.names ≠ [] ∧ o.allowArray = true ∧ translate o.names p = some t))
    | .invalid => i.hasArg = true ∧ o.names ≠ [] ∧ o.allowArray = true ∧ translate o.names p = none := by
  unfold wrapAction
  by_cases h1 : i.hasArg = true
  · by_cases h2 : i.argIsReq = true
    · simp [h1, h2]
    · by_cases h3 : p = []
      · simp [h1, h2, h3]
      · by_cases h4 : o.names ≠ [] ∧ o.allowArray = true
        · cases ht : translate o.names p <;> simp [h1, h2, h3, h4]
        · simp [h1, h2, h3, h4]
  · by_cases h3 : p = [] <;> simp [h1, h3]

/-- **unknown fields are rejected whenever strict checking was requested with SetStrict or the
parameter type has DisallowUnknownFields — in every wrapper case** (with and without the array
translation) -/
theorem strict_honoured (i : Info) (o : Opts) (p t : Bytes) (s : Bool)
    (h : wrapAction i o p = .decode s t) : s = (o.strictSet || o.implStrict) := by
  have key : ∀ a b : Bool, (a && !b || b) = (a || b) := by decide
  simp only [wrapAction, key, ite_eq_iff, reduceCtorEq, and_false, false_or, or_false] at h
  -- the two rows that decode: through the array stub, and the parameter text as it is
  obtain ⟨-, -, -, ⟨-, h⟩ | ⟨-, h⟩⟩ := h
  · cases ht : translate o.names p with
    | none => simp [ht] at h
    | some t' => exact (Action.decode.inj (ht ▸ h)).1.symm
  · exact (Action.decode.inj h).1.symm

/-- **array mapping**: an array of exactly as many elements as the struct has positional names is
the object with those names; any other array is refused; `AllowArray(false)` leaves arrays to the
decoder untouched -/
theorem array_mapping (names : List Bytes) (data : Bytes) (h : Jrpc.Json.firstByte data = 91) :
    translate names data =
      (match Jrpc.Json.elements data with
       | none => none
       | some elts => if elts.length = names.length then some (123 :: objectOf names elts ++ [125]) else none) := by
  unfold translate; simp only [h, bne_self_eq_false, Bool.false_eq_true, if_false]; rfl

theorem non_array_passthrough (names : List Bytes) (data : Bytes) (h : Jrpc.Json.firstByte data ≠ 91) :
    translate names data = some data := by
  unfold translate; simp [h]

theorem no_array_mode (i : Info) (o : Opts) (p : Bytes) (h1 : i.hasArg = true) (h2 : i.argIsReq = false)
    (h3 : p ≠ []) (h4 : o.allowArray = false) : wrapAction i o p = .decode (o.strictSet || o.implStrict) p := by
  unfold wrapAction
  simp only [h1, h2, h3, h4, Bool.not_true, Bool.false_eq_true, if_false, Bool.and_false]
  cases o.strictSet <;> cases o.implStrict <;> rfl

/-! ### C16 -/

theorem mem_range_zip {α : Type} {n i : Nat} {l : List α} {v : α} (h : (i, v) ∈ (List.range n).zip l) :
    l[i]? = some v := by
  obtain ⟨k, hk⟩ := List.mem_iff_getElem?.mp h
  obtain ⟨h1, h2⟩ := List.getElem?_zip_eq_some.mp hk
  obtain ⟨_, rfl⟩ := List.getElem?_eq_some_iff.mp h1
  rwa [List.getElem_range]

/-- **Args decodes position by position with exact length; nil slots are skipped** -/
theorem args_exact_length (targets : List Bool) (data : Bytes) (elts : List Bytes)
    (h : argsElements data = some elts) :
    (elts.length ≠ targets.length → argsUnmarshal targets data = .wrongLength) ∧
    (elts.length = targets.length → ∃ ps, argsUnmarshal targets data = .decodeEach ps ∧
      ∀ p ∈ ps, targets.getD p.1 false = true ∧ elts[p.1]? = some p.2) := by
  unfold argsUnmarshal
  rw [h]
  constructor
  · intro hne
    simp [hne]
  · intro heq
    refine ⟨_, if_neg (not_not_intro heq), fun p hp => ?_⟩
    obtain ⟨hz, ht⟩ := List.mem_filter.mp hp
    exact ⟨ht, mem_range_zip hz⟩

theorem args_not_array (targets : List Bool) (data : Bytes) (h : argsElements data = none) :
    argsUnmarshal targets data = .notArray := by unfold argsUnmarshal; rw [h]

/-- `null` counts as an array without elements (encoding/json leaves the element slice nil): it
is accepted by an `Args` without slots and by no other -/
theorem args_null (targets : List Bool) (data : Bytes) (h : isNullText data = true) :
    argsUnmarshal targets data = if targets.length = 0 then .decodeEach [] else .wrongLength := by
  unfold argsUnmarshal argsElements
  simp only [h, if_true]
  cases targets <;> simp

/-- an `Args` without slots accepts nothing but an empty array (or `null`): any array with an
element, and anything that is not an array, is refused -/
theorem args_empty_exact (data : Bytes) :
    (∃ ps, argsUnmarshal [] data = .decodeEach ps) ↔ argsElements data = some [] := by
  unfold argsUnmarshal
  cases h : argsElements data with
  | none => simp
  | some elts => cases elts <;> simp

/-- **Obj decodes only keys present in the map and touches no other target** -/
theorem obj_only_present_keys (keys : List Bytes) (fields : List (Bytes × Bytes)) :
    ∀ p ∈ objUnmarshal keys fields, p.1 ∈ keys ∧ Jrpc.Json.lookupLastRaw p.1 fields = some p.2 := by
  intro p hp
  obtain ⟨k, hk, hv⟩ := List.mem_filterMap.mp hp
  obtain ⟨v, hl, rfl⟩ := Option.map_eq_some_iff.mp hv
  exact ⟨hk, hl⟩

/-- Positional defers to Check for a context-only function and otherwise needs one name per
non-context parameter and a non-variadic function -/
theorem positional_rejects_bad_arity (s : Sig) (n : Nat) (h : s.ins.length ≥ 2)
    (hbad : n ≠ s.ins.length - 1 ∨ s.variadic = true) : positionalOK s n = false := by
  unfold positionalOK
  have : ¬ s.ins.length = 1 := by omega
  simp only [this, if_false]
  rcases hbad with h1 | h1 <;> simp [h1]

-- non-vacuity
example : (check ⟨true, [.ctx, .other], false, [.other, .err]⟩).isSome = true := by decide +kernel
example : check ⟨true, [.ctx, .other], true, [.err]⟩ = none := by decide +kernel
example : translate [[97], [98]] [91, 49, 44, 50, 93] = some [123, 34, 97, 34, 58, 49, 44, 34, 98, 34, 58, 50, 125] := by decide +kernel
example : translate [[97], [98]] [91, 49, 93] = none := by decide +kernel

end Jrpc.Props.C15
