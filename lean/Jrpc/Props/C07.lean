import Jrpc.Model.IdTable
import Jrpc.Proofs.Basic
/-! # C07 — cancellation hits only its target; ids reserved only while in flight -/
namespace Jrpc.Props.C07
open Jrpc.IdTable

theorem lookup_mem {i : Id} {u : Nat} {l : List (Id × Nat)} (h : lookup i l = some u) : (i, u) ∈ l := by
  induction l with
  | nil => cases h
  | cons p r ih => grind [lookup]

theorem lookup_remove (i j : Id) (l : List (Id × Nat)) :
    lookup j (remove i l) = if j = i then none else lookup j l := by
  induction l with
  | nil => simp [remove, lookup]
  | cons p r ih => grind [lookup, remove]

theorem remove_of_lookup_none {i : Id} {l : List (Id × Nat)} (h : lookup i l = none) : remove i l = l := by
  induction l with
  | nil => rfl
  | cons p r ih => grind [lookup, remove]

/-- **CancelRequest for an unknown or finished id does nothing** -/
theorem cancel_unknown_noop (s : St) (i : Id) (h : lookup i s.used = none) : step s (.cancelReq i) = some s := by
  simp [step, h]

/-- **CancelRequest cancels exactly the holder of that id** and keeps the reservation, so a second
request with the id is still rejected while the first is in flight -/
theorem cancel_hits_holder (s : St) (i : Id) (u : Nat) (h : lookup i s.used = some u) :
    step s (.cancelReq i) = some { s with cancelled := (u, .request) :: s.cancelled } := by
  simp [step, h]

/-- releasing one delivered call cancels at most the context the table holds *under that call's id*
and frees exactly that id -/
theorem release_eq (s : St) (c : Call) :
    release s c = { s with
      used := remove c.id s.used
      cancelled := match lookup c.id s.used with
        | some u => (u, .delivery) :: s.cancelled
        | none => s.cancelled
      inflight := s.inflight.filter (· ≠ c) } := by
  unfold release
  split <;> simp [*, remove_of_lookup_none]

/-- the table agrees with the set of in-flight calls (while the server runs: `stop` empties `used`
and leaves `inflight`, hence the premises `stopped = false`) -/
structure Inv (s : St) : Prop where
  holder : ∀ i u, lookup i s.used = some u → ∃ c ∈ s.inflight, c.id = i ∧ c.uid = u
  idsUnique : ∀ c ∈ s.inflight, ∀ d ∈ s.inflight, c.id = d.id → s.stopped = false → c = d
  reserved : s.stopped = false → ∀ c ∈ s.inflight, lookup c.id s.used = some c.uid
  nodup : s.inflight.Nodup

/-- **once the reply has been sent the id is accepted again** — whatever the outcome -/
theorem id_reusable_after_reply (s : St) (c : Call) : lookup c.id (release s c).used = none := by
  simp [release_eq, lookup_remove]

/-- a second request with a reserved id is rejected (`duplicate`) -/
def dupVerdict (s : St) (batch : List Call) (c : Call) : Bool :=
  (batch.filter (fun x => x.id = c.id)).length ≥ 2 || (lookup c.id s.used).isSome

theorem lookup_assign {s : St} {cs : List Call} {i : Id} (hfresh : ∀ c ∈ cs, c.id ≠ i) :
    lookup i (assign s cs).used = lookup i s.used := by
  fun_induction assign s cs with
  | case1 s => rfl
  | case2 s c cs _ ih =>
    have ⟨hc, hr⟩ := List.forall_mem_cons.mp hfresh
    rw [ih hr]
    simp [lookup, hc]
  | case3 s c cs _ ih => exact ih fun x hx => hfresh x (List.mem_cons_of_mem _ hx)

theorem assign_cancelled {s : St} {cs : List Call} {u : Nat} {k : Cause} (hk : k ≠ .unassigned)
    (h : (u, k) ∈ (assign s cs).cancelled) : (u, k) ∈ s.cancelled := by
  fun_induction assign s cs with
  | case1 s => exact h
  | case2 s c cs _ ih => exact ih h
  | case3 s c cs _ ih => simpa [hk] using ih h

/-- if a test lets pass only members whose id occurs once in the batch, those that pass have
distinct ids -/
theorem filter_once_pairwise (batch : List Call) (P : Call → Bool)
    (hP : ∀ c, P c = true → (batch.filter (fun x => decide (x.id = c.id))).length < 2) :
    (batch.filter P).Pairwise (fun a b => a.id ≠ b.id) := by
  rw [List.pairwise_iff_forall_sublist]
  intro a b hab e
  have ha : P a = true := (List.mem_filter.mp (hab.subset List.mem_cons_self)).2
  -- `[a, b]` is a sublist of the batch, and filtering by `a`'s id keeps both
  have h2 := ((hab.trans List.filter_sublist).filter fun x => decide (x.id = a.id)).length_le
  rw [show [a, b].filter (fun x => decide (x.id = a.id)) = [a, b] by simp [e]] at h2
  exact Nat.not_lt.mpr h2 (hP a ha)

/-- what admitting a batch does: the members that pass phase 1 are assigned in order; their ids
are free and distinct -/
theorem step_admitB {s s' : St} {batch : List Call} (h : step s (.admitB batch) = some s') :
    s.stopped = false ∧ ∃ vs ok, s' = assign { s with verdicts := vs } ok ∧
      (∀ c ∈ ok, lookup c.id s.used = none) ∧ ok.Pairwise (fun a b => a.id ≠ b.id) := by
  simp only [step, Option.ite_none_left_eq_some, Bool.not_eq_true, Option.some.injEq] at h
  refine ⟨h.1, _, _, h.2.symm, fun c hc => ?_, filter_once_pairwise _ _ fun c hc => ?_⟩
  · have := (List.mem_filter.mp hc).2
    simp at this
    exact this.2
  · simp at hc
    omega

/-- **a duplicate is rejected without disturbing the first call**: admitting a batch leaves every
existing reservation in place and cancels the context of no call (the only cancellations it records
are the throw-away contexts of members without a handler) -/
theorem dup_rejected_without_disturbing (s : St) (batch : List Call) (s' : St)
    (h : step s (.admitB batch) = some s') (i : Id) (u : Nat) (hu : lookup i s.used = some u) :
    lookup i s'.used = some u ∧ ∀ k, k ≠ Cause.unassigned → (u, k) ∈ s'.cancelled → (u, k) ∈ s.cancelled := by
  obtain ⟨-, vs, ok, rfl, hfree, -⟩ := step_admitB h
  refine ⟨?_, fun k hk hm => assign_cancelled (s := { s with verdicts := vs }) hk hm⟩
  rw [lookup_assign fun c hc e => by simp [← e, hfree c hc] at hu]
  exact hu

/-- two members of one batch with the same id both fail -/
theorem in_batch_duplicates_both_fail (s : St) (batch : List Call) (a b : Call)
    (ha : a ∈ batch) (hb : b ∈ batch) (hab : a ≠ b) (hid : a.id = b.id) :
    dupVerdict s batch a = true ∧ dupVerdict s batch b = true := by
  have two : ∀ x : Call, x.id = a.id → 2 ≤ (batch.filter (fun y => decide (y.id = x.id))).length :=
    fun x hx => two_le_length (a := a) (b := b) (by simp [ha, hx]) (by simp [hb, hx, hid]) hab
  simp [dupVerdict, two a rfl, two b hid.symm]

/-- Stop cancels every in-flight call and empties the table -/
theorem stop_cancels_all (s : St) (s' : St) (h : step s .stop = some s') :
    s'.used = [] ∧ ∀ p ∈ s.used, (p.2, Cause.stop) ∈ s'.cancelled := by
  cases h
  exact ⟨rfl, fun p hp => List.mem_append_left _ (List.mem_map_of_mem hp)⟩

theorem assign_stopped (s : St) (cs : List Call) : (assign s cs).stopped = s.stopped := by
  fun_induction assign s cs <;> simp_all

/-- a call whose id is free is assigned its handler: it takes the id and is in flight -/
theorem Inv.reserve {s : St} (h : Inv s) (hs : s.stopped = false) {c : Call}
    (hfree : lookup c.id s.used = none) (vs : List (Nat × Verdict)) :
    Inv { s with used := (c.id, c.uid) :: s.used, inflight := c :: s.inflight, verdicts := vs } := by
  -- no call in flight has the id, for its reservation would be in the table
  have hne : ∀ a ∈ s.inflight, c.id ≠ a.id := fun a ha e => by
    simp [e, h.reserved hs a ha] at hfree
  refine ⟨fun i u hl => ?_, ?_, fun _ a ha => ?_, List.nodup_cons.mpr ⟨fun hm => hne c hm rfl, h.nodup⟩⟩
  · simp only [lookup] at hl
    split at hl
    · next e => exact ⟨c, List.mem_cons_self, e, Option.some.inj hl⟩
    · obtain ⟨d, hd, hdi⟩ := h.holder i u hl
      exact ⟨d, List.mem_cons_of_mem _ hd, hdi⟩
  · intro a ha b hb hab _
    rcases List.mem_cons.mp ha with rfl | ha' <;> rcases List.mem_cons.mp hb with rfl | hb'
    · rfl
    · exact absurd hab (hne b hb')
    · exact absurd hab.symm (hne a ha')
    · exact h.idsUnique a ha' b hb' hab hs
  · rcases List.mem_cons.mp ha with rfl | ha'
    · simp [lookup]
    · simp [lookup, hne a ha', h.reserved hs a ha']

theorem inv_assign {s : St} {cs : List Call} (h : Inv s) (hs : s.stopped = false)
    (hfree : ∀ c ∈ cs, lookup c.id s.used = none)
    (hdist : cs.Pairwise (fun a b => a.id ≠ b.id)) : Inv (assign s cs) := by
  fun_induction assign s cs with
  | case1 s => exact h
  | case2 s c cs _ ih =>
    have ⟨hd, hdist⟩ := List.pairwise_cons.mp hdist
    have ⟨hc, hfree⟩ := List.forall_mem_cons.mp hfree
    exact ih (h.reserve hs hc _) hs (fun x hx => by simp [lookup, hd x hx, hfree x hx]) hdist
  | case3 s c cs _ ih =>
    exact ih { h with } hs (fun x hx => hfree x (List.mem_cons_of_mem _ hx)) hdist.of_cons

theorem inv_release {s : St} {c : Call} (h : Inv s) (hc : c ∈ s.inflight) : Inv (release s c) := by
  rw [release_eq]
  refine ⟨fun i u hl => ?_, fun a ha b hb => ?_, fun hs a ha => ?_, h.nodup.filter _⟩
  · simp only [lookup_remove] at hl
    split at hl
    · cases hl
    · next hi =>
      obtain ⟨d, hd, rfl, hdu⟩ := h.holder i u hl
      exact ⟨d, List.mem_filter.mpr ⟨hd, decide_eq_true fun e => hi (congrArg Call.id e)⟩, rfl, hdu⟩
  · exact h.idsUnique a (List.mem_filter.mp ha).1 b (List.mem_filter.mp hb).1
  · obtain ⟨ha, hac⟩ := List.mem_filter.mp ha
    -- another call in flight has another id, so its reservation stays
    have hne : a.id ≠ c.id := fun e => of_decide_eq_true hac (h.idsUnique a ha c hc e hs)
    simp only [lookup_remove, hne, if_false]
    exact h.reserved hs a ha

theorem inv_releaseAll {s : St} {cs : List Call} (h : Inv s) (hc : ∀ c ∈ cs, c ∈ s.inflight)
    (hnd : cs.Nodup) : Inv (releaseAll s cs) := by
  fun_induction releaseAll s cs with
  | case1 s => exact h
  | case2 s c cs ih =>
    have ⟨hcc, hc⟩ := List.forall_mem_cons.mp hc
    have ⟨hn, hnd⟩ := List.nodup_cons.mp hnd
    refine ih (inv_release h hcc) (fun x hx => ?_) hnd
    rw [release_eq]
    exact List.mem_filter.mpr ⟨hc x hx, decide_eq_true fun e => hn (e ▸ hx)⟩

theorem inv_init : Inv init := ⟨nofun, nofun, nofun, .nil⟩

theorem inv_step {s s' : St} {e : Ev} (h : Inv s) (hs : step s e = some s') : Inv s' := by
  cases e with
  | admitB batch =>
    obtain ⟨hst, vs, ok, rfl, hfree, hdist⟩ := step_admitB hs
    exact inv_assign { h with } hst hfree hdist
  | deliver uids =>
    cases hs
    exact inv_releaseAll h (fun c hc => (List.mem_filter.mp hc).1) (h.nodup.filter _)
  | cancelReq i =>
    simp only [step] at hs
    split at hs <;> cases hs <;> exact { h with }
  | stop =>
    cases hs
    exact ⟨nofun, fun _ _ _ _ _ => nofun, nofun, h.nodup⟩

theorem isRun : IsRun step run := ⟨fun _ => rfl, fun _ _ _ => rfl⟩

theorem inv_reach {es : List Ev} {s : St} (hr : run init es = some s) : Inv s :=
  isRun.invariant inv_step inv_init hr

/-- **reserved exactly while in flight**: in every reachable state of a running server the table
holds precisely the ids of the calls whose handler was assigned and whose reply has not been sent -/
theorem reserved_iff_inflight (es : List Ev) (s : St) (hr : run init es = some s) (hs : s.stopped = false) (i : Id) :
    (lookup i s.used).isSome ↔ ∃ c ∈ s.inflight, c.id = i := by
  have h := inv_reach hr
  constructor
  · intro hl
    obtain ⟨u, hu⟩ := Option.isSome_iff_exists.mp hl
    obtain ⟨c, hc, hci, -⟩ := h.holder i u hu
    exact ⟨c, hc, hci⟩
  · rintro ⟨c, hc, rfl⟩
    rw [h.reserved hs c hc]
    rfl

/-- **in every reachable state, delivering a call cancels that call only** -/
theorem delivery_cancels_only_own_reachable (es : List Ev) (s : St) (hr : run init es = some s)
    (hs : s.stopped = false) (c : Call) (hc : c ∈ s.inflight) :
    (release s c).cancelled = (c.uid, .delivery) :: s.cancelled := by
  simp [release_eq, (inv_reach hr).reserved hs c hc]

-- the scenarios of the two defects, as facts about the repaired model
/-- F1: after a call to an unknown method is answered, its id is free -/
example : (run init [.admitB [⟨1, 7, false⟩], .admitB [⟨2, 7, true⟩]]).map (·.verdicts) =
    some [(2, .run), (1, .notFound)] := by decide +kernel
/-- F7: CancelRequest keeps the id reserved; the duplicate is rejected; the first call's delivery
cancels only the first call -/
example : (run init [.admitB [⟨1, 1, true⟩], .cancelReq 1, .admitB [⟨2, 1, true⟩], .deliver [1]]).map
    (fun s => (s.verdicts, s.cancelled)) =
    some ([(2, .duplicate), (1, .run)], [(1, .delivery), (1, .request)]) := by decide +kernel

end Jrpc.Props.C07
