import Jrpc.Model.Http
import Jrpc.Proofs.Basic
import Jrpc.Proofs.Atoi
/-! # C19 — HTTP Getter, query parsing and HTTP client channel -/
namespace Jrpc.Props.C19
open Jrpc.Http
open Jrpc.Json (Bytes isDigit)

/-- **status mapping of the Getter** -/
theorem status_map :
    getterStatus .ok = 200 ∧ getterStatus .parseFail = 400 ∧ getterStatus .methodNotFound = 404 ∧ getterStatus .otherError = 500 := by decide

/-- the only rows of the cascade that yield a number: the quoted row above them yields a string or
an error -/
theorem classify_number (ff : Bytes → Bool) (s : Bytes) :
    (classify ff s = .int → intOK s = true) ∧
    (classify ff s = .float → isDecimal s = true ∧ ff s = true) := by
  unfold classify
  simp only [ite_eq_iff, reduceCtorEq, and_false, false_or, or_false]
  cases Json.unquote s <;> simp only [reduceCtorEq, and_false, false_or, and_true, Bool.and_eq_true]
  all_goals exact ⟨fun h => h.2.2, fun h => h.2.2.2⟩

/-- **a query value is typed as a number only if it is an optionally signed string of decimal
digits with an optional fraction** — whatever `ParseFloat` would accept beyond that (NaN, Inf,
hexadecimal floats, exponents, underscores) stays a literal string -/
theorem number_only_if_decimal (ff : Bytes → Bool) (s : Bytes) (h : classify ff s = .float) : isDecimal s = true :=
  ((classify_number ff s).2 h).1

/-- an integer-typed value has integer syntax: optional sign, at least one digit, digits only -/
theorem int_syntax (ff : Bytes → Bool) (s : Bytes) (h : classify ff s = .int) :
    (Jrpc.Framing.signSplit s).2 ≠ [] ∧ (Jrpc.Framing.signSplit s).2.all isDigit = true := by
  obtain ⟨n, hn⟩ := Option.isSome_iff_exists.mp ((classify_number ff s).1 h)
  obtain ⟨hne, hd, _⟩ := Jrpc.Framing.atoi_some hn
  exact ⟨hne, List.all_eq_true.mpr hd⟩

/-- **parameters are always marshalable**: NaN and the infinities are never produced — the float
type is reached only through decimal syntax, on which `ParseFloat` yields a finite value or fails -/
theorem params_marshalable (ff : Bytes → Bool) (s : Bytes) :
    classify ff s = .float → isDecimal s = true ∧ ff s = true :=
  (classify_number ff s).2

/-- decimal syntax contains nothing but digits, one optional dot and a leading sign: no `e`, `x`,
`_`, `n`, `i` … -/
theorem decimal_alphabet (s : Bytes) (h : isDecimal s = true) :
    ∀ c ∈ (Jrpc.Framing.signSplit s).2, isDigit c = true ∨ c = 46 := by
  unfold isDecimal at h
  simp only [Bool.and_eq_true, List.all_eq_true, Bool.or_eq_true, beq_iff_eq] at h
  exact h.1.1

/-- the typing rules are mutually exclusive in the documented order: a double-quoted value is a
string (or an error), never a number or a constant -/
theorem dq_is_string (ff : Bytes → Bool) (s : Bytes) (h : s.length ≥ 2) (h1 : s.head? = some 34) (h2 : s.getLast? = some 34) :
    (∃ d, classify ff s = .str d) ∨ classify ff s = .err := by
  unfold classify
  simp only [h, h1, h2, decide_true, beq_self_eq_true, Bool.and_self, if_true]
  split
  · split
    · exact Or.inl ⟨_, rfl⟩
    · exact Or.inr rfl
  · exact Or.inr rfl

theorem constants (ff : Bytes → Bool) :
    classify ff [116, 114, 117, 101] = .ctrue ∧ classify ff [102, 97, 108, 115, 101] = .cfalse ∧
    classify ff [110, 117, 108, 108] = .cnull :=
  ⟨rfl, rfl, rfl⟩

/-! ### the HTTP client channel never leaks a response body -/

def CInv (s : Chan) : Prop := s.opened = s.closedBodies + bodies s.waiting ∧ (s.closed = true → s.waiting = [])

theorem bodies_nil : bodies [] = 0 := rfl

theorem bodies_cons (x : Resp) (l : List Resp) : bodies (x :: l) = (if x = .body then 1 else 0) + bodies l := by
  cases x <;> simp [bodies] <;> omega

theorem bodies_append (a b : List Resp) : bodies (a ++ b) = bodies a + bodies b := by
  simp [bodies, List.filter_append]

theorem isRun : IsRun cstep crun := ⟨fun _ => rfl, fun _ _ _ => rfl⟩

theorem cinv_step {s s' : Chan} {e : CEv} (h : CInv s) (hs : cstep s e = some s') : CInv s' := by
  obtain ⟨h1, h2⟩ := h
  cases e with
  | send =>
    simp only [cstep] at hs
    split at hs <;> (cases hs; exact ⟨h1, h2⟩)
  | doReturn r =>
    obtain ⟨-, hs⟩ := Option.ite_none_left_eq_some.mp hs
    by_cases hc : s.closed = true
    · -- the drain loop of `Close` closes a body as it is obtained
      cases r
      all_goals
        simp only [if_pos hc] at hs
        cases hs
        exact ⟨by simp only; omega, h2⟩
    · -- the response joins the queue
      cases r
      all_goals
        simp only [if_neg hc] at hs
        cases hs
        refine ⟨?_, fun hcl => absurd hcl hc⟩
        simp only [bodies_append, bodies_cons, bodies_nil, reduceCtorEq, if_true, if_false]
        omega
  | recv =>
    obtain ⟨hc, hs⟩ := Option.ite_none_left_eq_some.mp hs
    cases hw : s.waiting with
    | nil => simp [hw] at hs
    | cons x r =>
      rw [hw, bodies_cons] at h1
      simp only [hw] at hs
      split at hs
      all_goals
        rename_i hx
        simp only [hx, if_true, if_false] at h1
        cases hs
        exact ⟨by simp only; omega, fun hcl => absurd hcl hc⟩
  | close =>
    cases hs
    exact ⟨by simp only [bodies_nil]; omega, fun _ => rfl⟩

/-- **closing the channel leaves no HTTP response body unclosed**: in every run, once the channel
is closed every body that was obtained has been closed (requests still in flight are drained as
their `Do` returns), for every order of sends, completions, receives and the close -/
theorem httpchan_no_leak (es : List CEv) (s : Chan) (hr : crun {} es = some s) (hc : s.closed = true) :
    s.opened = s.closedBodies := by
  have h := isRun.invariant cinv_step (show CInv {} from ⟨rfl, fun _ => rfl⟩) hr
  have h1 := h.1
  rw [h.2 hc] at h1
  exact h1

/-- and no request goroutine is left: after Close, `Send` starts nothing -/
theorem closed_refuses_send (s : Chan) (h : s.closed = true) :
    ∃ s', cstep s .send = some s' ∧ s'.inflight = s.inflight := by
  simp [cstep, h]

-- non-vacuity
example : (crun {} [.send, .send, .send, .doReturn .body, .doReturn .noContent, .close, .doReturn .body]).map
    (fun s => (s.opened, s.closedBodies, s.inflight)) = some (3, 3, 0) := by decide +kernel
example : classify (fun _ => true) [45, 49, 57, 46, 52] = .float := by decide          -- -19.4
example : classify (fun _ => true) [49, 101, 53] = .lit := by decide                  -- 1e5
example : classify (fun _ => true) [78, 97, 78] = .lit := by decide                   -- NaN
example : classify (fun _ => true) [48, 120, 49, 112, 45, 50] = .lit := by decide     -- 0x1p-2

end Jrpc.Props.C19
