import Jrpc.Model.Lifecycle
import Jrpc.Proofs.Basic
/-! # C08 — clean, crash-free, restartable shutdown -/
namespace Jrpc.Props.C08
open Jrpc.Lifecycle

/-- `Start` is only called on a server that is not running (documented precondition) -/
def legal (s : St) : Ev → Bool
  | .start => !s.running
  | _ => true

def runLegal (s : St) : List Ev → Option St
  | [] => some s
  | e :: es => if legal s e then (step s e).bind (runLegal · es) else none

structure Inv (s : St) : Prop where
  alive : s.crashed = false
  closeOnce : s.closes ≤ 1
  closedIff : s.starts > 0 → (s.closes = 1 ↔ s.running = false)
  drained : s.disp = false → s.running = false ∧ s.queue = 0
  errSet : s.running = false → s.starts > 0 → s.err.isSome
  fresh : s.starts = 0 → s.running = false ∧ s.disp = false ∧ s.reader = false ∧ s.queue = 0 ∧ s.held = false ∧ s.closes = 0

theorem inv_init : Inv {} := by constructor <;> simp

/-- a running server has been started, its channel is open and its dispatcher alive -/
theorem Inv.running {s : St} (h : Inv s) (hr : s.running = true) :
    s.starts > 0 ∧ s.closes = 0 ∧ s.disp = true := by
  have hs : s.starts > 0 := Nat.pos_of_ne_zero fun z => by simp [(h.fresh z).1] at hr
  have hc : s.closes ≠ 1 := fun e => by simp [(h.closedIff hs).mp e] at hr
  have hd : s.disp ≠ false := fun e => by simp [(h.drained e).1] at hr
  have hle := h.closeOnce
  exact ⟨hs, by omega, by simpa using hd⟩

/-- before the first start nothing is alive -/
theorem Inv.started {s : St} (h : Inv s) (ha : s.reader = true ∨ s.held = true ∨ s.disp = true) :
    s.starts ≠ 0 := fun z => by
  obtain ⟨-, hd, hr, -, hh, -⟩ := h.fresh z
  simp [hd, hr, hh] at ha

theorem inv_stopLocked {s : St} (c : Cause) (k : Nat) (h : Inv s) : Inv (stopLocked s c k) := by
  unfold stopLocked
  split
  · exact h
  · next hr =>
    obtain ⟨hs, hc, hd⟩ := h.running (by simpa using hr)
    exact ⟨h.alive, by simp [hc], by simp [hc], by simp [hd], by simp, fun z => absurd z (Nat.ne_of_gt hs)⟩

/-- `WaitStatus` is enabled only when reader, dispatcher and every per-batch goroutine have exited;
the queue is then empty, so it returns without the postcondition panic -/
theorem Inv.waitStatus {s s' : St} (h : Inv s) (hw : step s .waitStatus = some s') :
    s.reader = false ∧ s.disp = false ∧ s.batches = 0 ∧ s.queue = 0 ∧ s' = s := by
  simp only [step, Option.ite_none_right_eq_some, Bool.and_eq_true, Bool.not_eq_true',
    decide_eq_true_eq] at hw
  obtain ⟨⟨⟨⟨hr, hd⟩, hb⟩, -⟩, hw⟩ := hw
  have hq := (h.drained hd).2
  simp only [hq, ne_eq, not_true_eq_false, if_false, Option.some.injEq] at hw
  exact ⟨hr, hd, hb, hq, hw.symm⟩

/-- the step function that `runLegal` folds -/
def stepLegal (s : St) (e : Ev) : Option St := if legal s e then step s e else none

theorem isRun : IsRun stepLegal runLegal where
  nil _ := rfl
  cons s e es := by
    rw [runLegal, stepLegal]
    split <;> rfl

theorem inv_step {s s' : St} {e : Ev} (h : Inv s) (hs : stepLegal s e = some s') : Inv s' := by
  obtain ⟨hl, hs⟩ := Option.ite_none_right_eq_some.mp hs
  cases e with
  | start =>
    simp only [legal, Bool.not_eq_true'] at hl
    simp only [step, Option.ite_none_left_eq_some, hl, Bool.false_eq_true, if_false,
      Option.some.injEq] at hs
    obtain ⟨-, rfl⟩ := hs
    constructor <;> simp [h.alive]
  | recvRecord =>
    refine guarded hs fun hg => ?_
    simp only [Bool.and_eq_true] at hg
    exact { h with fresh := fun z => absurd z (h.started (.inl hg.1.1)) }
  | recvFail c =>
    refine guarded hs fun _ => ?_
    have hi := inv_stopLocked c s.queue h
    exact { hi with fresh := fun z => by simp [hi.fresh z] }
  | readProcess enq =>
    simp only [step, Option.ite_none_right_eq_some, Bool.and_eq_true] at hs
    obtain ⟨hg, hs⟩ := hs
    have hf := h.started (.inr (.inl hg.1))
    split at hs <;> cases hs
    · exact { h with fresh := fun z => absurd z hf }
    · next hr =>
      exact { h with
        fresh := fun z => absurd z hf
        drained := fun hd => by simp [(h.drained hd).1] at hr }
  | dispTake =>
    refine guarded hs fun hg => ?_
    simp only [Bool.and_eq_true] at hg
    exact { h with
      fresh := fun z => absurd z (h.started (.inr (.inr hg.1.1)))
      drained := fun hd => by simp [hg.1.1] at hd }
  | dispExit =>
    refine guarded hs fun hg => ?_
    simp only [Bool.and_eq_true, Bool.not_eq_true', decide_eq_true_eq] at hg
    obtain ⟨⟨⟨hd, hr⟩, hq⟩, -⟩ := hg
    exact { h with
      fresh := fun z => absurd z (h.started (.inr (.inr hd)))
      drained := fun _ => ⟨hr, hq⟩ }
  | batchDone => exact guarded hs fun _ => { h with }
  | stop => exact guarded_not hs fun _ => inv_stopLocked _ _ h
  | keep k =>
    exact guarded_not hs fun _ => { h with
      drained := fun hd => by simp [h.drained hd]
      fresh := fun z => by simp [h.fresh z] }
  | waitStatus => exact (h.waitStatus hs).2.2.2.2 ▸ h

theorem inv_reach {es : List Ev} {s : St} (hr : runLegal {} es = some s) : Inv s :=
  isRun.invariant inv_step inv_init hr

/-- **no interleaving of records, handler completions, Stop / close / failure makes the server
panic**: no reachable state is crashed — in particular a record received around or after the stop
is discarded, and `WaitStatus` never meets a non-empty queue -/
theorem never_crashes (es : List Ev) (s : St) (hr : runLegal {} es = some s) : s.crashed = false :=
  (inv_reach hr).alive

/-- **each start ends exactly once**: the channel is closed at most once per start, and exactly
once as soon as the server is no longer running -/
theorem close_once_per_start (es : List Ev) (s : St) (hr : runLegal {} es = some s) :
    s.closes ≤ 1 ∧ (s.starts > 0 → (s.closes = 1 ↔ s.running = false)) :=
  ⟨(inv_reach hr).closeOnce, (inv_reach hr).closedIff⟩

/-- **the first cause wins**: once stopped, further Stop / failure events leave the recorded cause alone -/
theorem first_cause_wins (s : St) (c : Cause) (k : Nat) (h : s.running = false) :
    (stopLocked s c k).err = s.err ∧ (stopLocked s c k).closes = s.closes := by
  simp [stopLocked, h]

theorem stop_records_cause (s : St) (c : Cause) (k : Nat) (h : s.running = true) :
    (stopLocked s c k).err = some c := by simp [stopLocked, h]

/-- **status classification**: Stopped for Stop, Closed for peer close, the error otherwise; the
three outcomes are mutually exclusive (at most one flag) -/
theorem status_classification :
    classify (some .stopped) = .stoppedOk ∧ classify (some .closed) = .closedOk ∧
    classify (some .failed) = .error ∧ classify none = .error := by decide

/-- **WaitStatus returns only after every handler has returned** (its guard is the wait group:
reader, dispatcher and every per-batch goroutine have exited), and then the queue is empty -/
theorem waitstatus_after_handlers (es : List Ev) (s s' : St) (hr : runLegal {} es = some s)
    (hw : step s .waitStatus = some s') :
    s.reader = false ∧ s.disp = false ∧ s.batches = 0 ∧ s.queue = 0 ∧ s' = s :=
  (inv_reach hr).waitStatus hw

/-- **restartable**: once `WaitStatus` can return, `Start` is legal again and yields a running
server with an empty queue, an open channel and no recorded cause -/
theorem restartable (es : List Ev) (s : St) (hr : runLegal {} es = some s)
    (hw : (step s .waitStatus).isSome) :
    ∃ s', step s .start = some s' ∧ s'.running = true ∧ s'.err = none ∧ s'.queue = 0 ∧ s'.closes = 0 ∧
      s'.crashed = false ∧ s'.reader = true ∧ s'.disp = true := by
  have h := inv_reach hr
  obtain ⟨s1, hws⟩ := Option.isSome_iff_exists.mp hw
  obtain ⟨-, hd, -, hq, -⟩ := h.waitStatus hws
  simp [step, h.alive, (h.drained hd).1, hq]

/-- the unrepaired reader (records processed against a stopped server) is NOT crash-free: the
witness history of findings F2/F3 — the property theorem above is about the repaired code -/
def legacyReadProcess (s : St) : St := if !s.running then { s with crashed := true } else { s with held := false }
example : (legacyReadProcess ((run {} [.start, .recvRecord, .stop]).getD {})).crashed = true := by decide +kernel

-- non-vacuity
example : (runLegal {} [.start, .recvRecord, .stop, .readProcess true, .dispExit, .recvFail .closed, .waitStatus, .start]).isSome = true := by decide +kernel
example : ((runLegal {} [.start, .recvRecord, .readProcess true, .dispTake, .stop, .recvFail .closed, .dispExit, .batchDone, .waitStatus]).map (fun s => classify s.err)) = some .stoppedOk := by decide +kernel

end Jrpc.Props.C08
