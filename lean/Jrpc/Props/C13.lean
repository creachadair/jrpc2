import Jrpc.Proofs.RoundTrip
/-! # C13 — wire encoding: emitted messages are one-line valid JSON-RPC that parse back -/
namespace Jrpc.Props.C13
open Jrpc.Wire Jrpc.Json

/-- no control byte (< 0x20): the message fits on one line of every framing -/
def Clean (bs : Bytes) : Prop := ∀ b ∈ bs, 32 ≤ b

theorem clean_append {a b : Bytes} : Clean (a ++ b) ↔ Clean a ∧ Clean b := List.forall_mem_append

theorem clean_cons {c : UInt8} {l : Bytes} : Clean (c :: l) ↔ 32 ≤ c ∧ Clean l := List.forall_mem_cons

theorem clean_nil : Clean [] := List.forall_mem_nil _

theorem escByte_clean (c : UInt8) : Clean (escByte c) := by
  have short : ∀ p ∈ shortEsc, Clean [92, p.2] := by unfold Clean; decide
  rcases escByte_shape c with ⟨e, he, h⟩ | ⟨hc, h⟩ | ⟨_, _, h32, h⟩ <;> rw [h]
  · exact short (c, e) he
  · have g1 := (hexDigitByte_spec (c.toNat / 16) (by omega)).2.2
    have g2 := (hexDigitByte_spec (c.toNat % 16) (by omega)).2.2
    simp [clean_cons, clean_nil, g1, g2]
  · simpa [clean_cons, clean_nil] using UInt8.not_lt.mp h32

/-- **`json.Marshal` of any method name yields no control byte**: quotes, backslashes, control
characters, HTML metacharacters, U+2028/9 are all escaped -/
theorem quote_clean (s : Bytes) : Clean (quote s) := by
  have body : Clean (quoteBody s) := by
    induction s using quoteBody.induct with
    | case1 r ih | case2 r ih => rw [quoteBody]; exact clean_append.mpr ⟨by unfold Clean; decide, ih⟩
    | case3 c r h1 h2 ih => rw [quoteBody.eq_3 c r h1 h2]; exact clean_append.mpr ⟨escByte_clean c, ih⟩
    | case4 => exact clean_nil
  simp [quote, clean_cons, clean_append, clean_nil, body]

/-- every emitted message carries `"jsonrpc":"2.0"` first -/
theorem emit_versioned (j : OutMsg) : ∃ rest, toJSON j = prefixLit ++ rest := by
  unfold toJSON; exact ⟨_, by rw [List.append_assoc, List.append_assoc]⟩

/-- **single line**: if the pre-encoded parts (id, params, result, error object — compact output
of `json.Marshal` by its contract) contain no control byte, neither does the message, whatever
the method name -/
theorem emit_single_line (j : OutMsg) (hid : Clean j.id) (hp : Clean j.p) (hr : Clean j.r)
    (he : ∀ e, j.e = some e → Clean e) : Clean (toJSON j) := by
  have lits : Clean prefixLit ∧ Clean idLit ∧ Clean methodLit ∧ Clean paramsLit ∧ Clean resultLit ∧ Clean errorLit := by
    unfold Clean; decide
  obtain ⟨id, m, p, r, e, b⟩ := j
  cases e <;>
    simp [toJSON, clean_append, clean_cons, clean_nil, apply_ite Clean, lits, hid, hp, hr, quote_clean, he]

/-- batches too -/
theorem emit_batch_single_line (js : List OutMsg) (h : ∀ j ∈ js, Clean (toJSON j)) : Clean (toJSONs js) := by
  have join : ∀ l : List Bytes, (∀ x ∈ l, Clean x) → Clean (joinComma l) := by
    intro l hl
    cases l with
    | nil => exact clean_nil
    | cons x r =>
      refine clean_append.mpr ⟨hl x (by simp), fun b hb => ?_⟩
      obtain ⟨_, ⟨y, hy, rfl⟩, hb⟩ : ∃ l', (∃ y ∈ r, 44 :: y = l') ∧ b ∈ l' := by simpa using hb
      exact clean_cons.mpr ⟨by decide, hl y (by simp [hy])⟩ b hb
  unfold toJSONs
  split
  · simp [apply_ite Clean, clean_cons, clean_append, clean_nil, h]
  · simpa [clean_cons, clean_append, clean_nil] using join _ (by simpa using h)

/-- a single non-batch message is sent bare; anything else as an array -/
theorem batch_shape (j : OutMsg) : (j.batch = false → toJSONs [j] = toJSON j) ∧
    (j.batch = true → toJSONs [j] = 91 :: toJSON j ++ [93]) := by
  constructor <;> intro h <;> simp [toJSONs, h]

theorem pieces_some_of_valid (data : Bytes) (hv : valid data = true) : ∃ es, pieces data = some es := by
  unfold pieces
  simp only [hv, Bool.not_true, Bool.false_eq_true, if_false]
  have := cutRun_state ⟨start, [], false, []⟩ data
  cases hc : cutRun ⟨start, [], false, []⟩ data with
  | some c => exact ⟨_, rfl⟩
  | none =>
    rw [hc] at this
    simp [valid, ← this] at hv

theorem envelope_invalid_iff (data : Bytes) : envelope data = .invalid ↔ valid data = false := by
  unfold envelope
  cases hv : valid data with
  | false => simp
  | true =>
    obtain ⟨es, hes⟩ := pieces_some_of_valid data hv
    by_cases hfb : (firstByte data != 91) = true <;> simp [hfb, elements, hes]

/-- **ParseRequests is total and reports a top-level error exactly when the input is not valid
JSON** -/
theorem parseRequests_error_iff_not_json (data : Bytes) :
    parseRequests data = none ↔ valid data = false := by
  rw [← envelope_invalid_iff]
  unfold parseRequests
  cases envelope data <;> simp

/-- one entry per batch member, in order; a non-array text is a single entry -/
theorem parseRequests_one_entry_per_member (data : Bytes) (rs : List Bytes) (h : envelope data = .batch rs) :
    parseRequests data = some (rs.map fun r => parseMember (memberView r)) := by
  simp [parseRequests, h]

/-- an entry is flagged exactly when the server's member parser flags it, and with the codes the
server answers: both go through `parseMember`, and `classify` passes a deferred error through -/
theorem parseRequests_flags_match_server (cfg : Cfg) (j : Msg) (h : j.errs ≠ [])
    (hd : ¬ (fixID j.id != [] && ([] : List Bytes).contains (fixID j.id)) = true) :
    classify cfg [] j = .fail j.errs := by
  unfold classify
  simp [h]

/-- **`ParseRequests` flags exactly the members the server refuses before looking for a handler**,
with the same codes: a deferred parse error, or a missing method name ("If a request is valid, its
Error field is nil" - a member without a method is not a request; a proxy such as the HTTP bridge
must answer it itself and never forward it: finding F19) -/
theorem parsed_flag_is_server_verdict (cfg : Cfg) (j : Msg) (h : parsedFlag j ≠ []) :
    classify cfg [] j = .fail (parsedFlag j) := by
  unfold parsedFlag at h ⊢
  by_cases he : j.errs = [] <;> by_cases hm : j.m = [] <;> simp_all [classify]

/-- and an unflagged member has a method name and no deferred error: what a proxy forwards is a
request -/
theorem unflagged_is_request (j : Msg) (h : parsedFlag j = []) : j.errs = [] ∧ j.m ≠ [] := by
  unfold parsedFlag at h
  by_cases he : j.errs = [] <;> by_cases hm : j.m = [] <;> simp_all

theorem outParams_keep {bits p : Bytes} (h : outParams bits = .keep p) :
    p = bits ∧ (firstByte bits = 91 ∨ firstByte bits = 123) := by
  simp only [outParams, ite_eq_iff, reduceCtorEq, and_false, false_or, GoPrelude.ParamsDecision.keep.injEq] at h
  obtain ⟨-, hfb, rfl⟩ := h
  refine ⟨rfl, ?_⟩
  by_cases h91 : firstByte bits = 91 <;> simp_all

/-- whatever value is marshalled, a transmitted request has either no `params` member or one whose
text starts (after blanks) with `[` or `{`; in particular never `"params":null` or a scalar -/
theorem request_params_structured (id m : Bytes) (mp : Option Bytes) (b : Bool) (j : OutMsg)
    (h : requestOut id m mp b = some j) :
    j.id = id ∧ j.m = m ∧ (j.p = [] ∨ firstByte j.p = 91 ∨ firstByte j.p = 123) := by
  unfold requestOut at h
  cases mp with
  | none => cases h; simp
  | some bits =>
    simp only at h
    cases ho : outParams bits with
    | leaveOut => rw [ho] at h; cases h; simp
    | refuse => rw [ho] at h; cases h
    | keep p =>
      rw [ho] at h
      cases h
      obtain ⟨rfl, hfb⟩ := outParams_keep ho
      exact ⟨rfl, rfl, .inr hfb⟩

/-- the library's own member parser accepts the transmitted parameters without error and keeps
their text unchanged (so they parse back JSON-equal) -/
theorem request_params_parse_back (id m : Bytes) (mp : Option Bytes) (b : Bool) (j : OutMsg)
    (h : requestOut id m mp b = some j) (hp : j.p ≠ []) :
    scanParams (some j.p) = (j.p, []) :=
  scanParams_structured ((request_params_structured id m mp b j h).2.2.resolve_left hp)

/-- a value that marshals to `null` (a nil pointer, `json.RawMessage("null")`) sends no member;
a scalar is refused -/
example : requestOut [49] [109] (some [110, 117, 108, 108]) = some { id := [49], m := [109] } := by decide +kernel
example : requestOut [49] [109] (some [32, 91, 93]) = some { id := [49], m := [109], p := [32, 91, 93] } := by decide +kernel
example : requestOut [49] [109] (some [53]) = none := by decide +kernel

/-- **emit / parse round trip for requests.** For EVERY method name (any bytes: quotes, control
characters, U+2028/9, non-BMP ...), every id and every params text that are single trimmed JSON
values (what `json.Marshal` yields; `partB` is the executable test) - the id a string or number,
the params an array or object - the bytes the encoder emits are split by the decoder into exactly
the members written, the keys decode to `jsonrpc`, `id`, `method`, `params`, and the library's own
member parser returns the same id, the same method and the same params text with no error -/
theorem emit_parse_roundtrip (j : OutMsg) (hm : j.m ≠ [])
    (hid : j.id = [] ∨ (partB j.id = true ∧ isValidID j.id = true))
    (hp : j.p = [] ∨ (partB j.p = true ∧ (firstByte j.p = 91 ∨ firstByte j.p = 123))) :
    parseMember (memberView (toJSON j)) =
      { v := version, id := j.id, m := j.m, p := j.p, hasE := false, r := [], extra := false, errs := [] } :=
  parse_emitted_request j hm (hid.imp id (fun h => ⟨partB_spec _ h.1, h.2⟩)) (hp.imp id (fun h => ⟨partB_spec _ h.1, h.2⟩))

/-- **emit / parse round trip for successful responses**: the same for `{"jsonrpc":"2.0","id":…,
"result":…}` - the id and the result text come back unchanged, no error is flagged -/
theorem emit_parse_roundtrip_result (j : OutMsg) (hm : j.m = []) (hid : j.id ≠ []) (hr : j.r ≠ [])
    (pid : partB j.id = true) (hvid : isValidID j.id = true) (pr : partB j.r = true) :
    parseMember (memberView (toJSON j)) =
      { v := version, id := j.id, m := [], p := [], hasE := false, r := j.r, extra := false, errs := [] } :=
  parse_emitted_result j hm hid hr (partB_spec _ pid) hvid (partB_spec _ pr)

/-- **a relabelled response** (`Response.SetID` followed by `MarshalJSON`, as a proxy such as
`jhttp.Bridge` does - any number of times): the encoding is computed from the current id, so it
parses back to exactly the id that was set last and to the unchanged result -/
theorem relabelled_response_roundtrip (j : OutMsg) (x : Bytes) (hm : j.m = []) (hx : x ≠ []) (hr : j.r ≠ [])
    (px : partB x = true) (hvx : isValidID x = true) (pr : partB j.r = true) :
    parseMember (memberView (toJSON { j with id := x })) =
      { v := version, id := x, m := [], p := [], hasE := false, r := j.r, extra := false, errs := [] } :=
  emit_parse_roundtrip_result { j with id := x } hm hx hr px hvx pr

/-- relabelling twice is relabelling once with the last id: nothing of an earlier id (or of an
earlier encoding) survives -/
theorem relabel_last_wins (j : OutMsg) (x y : Bytes) :
    toJSON { ({ j with id := x } : OutMsg) with id := y } = toJSON { j with id := y } := rfl

/-- **emit / parse round trip for error responses**: `{"jsonrpc":"2.0","id":…,"error":{"code":c,
"message":…,"data":…}}` with any message text, a code text that is an int32 literal and optional
data: the error object is split into exactly its members, the decoder accepts it (`errorValueOK`)
and the response parses back with the same id, `error` set and no error flagged. (`partB` of the
whole error text is a hypothesis here; the oracle evaluates it on every error object emitted.) -/
theorem emit_parse_roundtrip_error (j : OutMsg) (c msg d : Bytes) (hm : j.m = []) (hid : j.id ≠ []) (hr : j.r = [])
    (he : j.e = some (objText (errorMembers c msg d)))
    (pid : partB j.id = true) (hvid : isValidID j.id = true)
    (pc : partB c = true) (hc : int32Literal c = true) (pd : d = [] ∨ partB d = true)
    (pe : partB (objText (errorMembers c msg d)) = true) :
    parseMember (memberView (toJSON j)) =
      { v := version, id := j.id, m := [], p := [], hasE := true, r := [], extra := false, errs := [] } :=
  parse_emitted_error j c msg d hm hid hr he (partB_spec _ pid) hvid (partB_spec _ pc) hc (pd.imp id (partB_spec _)) (partB_spec _ pe)

/-- the marshalled `Error` object of the model is that object text -/
theorem error_object_shape (code : Int) (msg d : Bytes) :
    errorJSON code msg d = objText (errorMembers (toString code).toUTF8.toList msg d) := by
  have h1 : lit [123, 34, 99, 111, 100, 101, 34, 58] = 123 :: (quote kCode ++ [58]) := by decide
  have h2 : lit [44, 34, 109, 101, 115, 115, 97, 103, 101, 34, 58] = 44 :: (quote kMessage ++ [58]) := by decide
  have h3 : lit [44, 34, 100, 97, 116, 97, 34, 58] = 44 :: (quote kData ++ [58]) := by decide
  by_cases hd : d = [] <;> simp [errorJSON, errorMembers, objText_cons, h1, h2, h3, hd]

/-- the string escaping is lossless: decoding a quoted method name (or key) gives it back -/
theorem quote_roundtrip (x : Bytes) : unquote (quote x) = some x := unquote_quote x

/-- the text of an emitted request is valid JSON whose members are exactly the ones written -/
theorem emit_members (j : OutMsg) (hm : j.m ≠ [])
    (hid : j.id = [] ∨ partB j.id = true) (hp : j.p = [] ∨ partB j.p = true) :
    members (toJSON j) = some (requestMembers j) := by
  rw [members_toJSON j <| parts_emitted j (hid.imp id (partB_spec _)) (fun _ => hp.imp id (partB_spec _))
    (fun h => absurd h hm) (fun h => absurd h hm)]
  by_cases h1 : j.id = [] <;> by_cases h2 : j.p = [] <;>
    simp [requestMembers, emitted, quoteKeys, hm, h1, h2]

-- the premises are satisfiable: a nested params value with strings, escapes, numbers; ids
example : partB [91, 49, 44, 123, 34, 97, 92, 34, 34, 58, 91, 45, 49, 46, 53, 101, 51, 44, 110, 117, 108, 108, 93, 125, 93] = true := by decide +kernel
example : partB [52, 50] = true ∧ isValidID [52, 50] = true := by decide +kernel
example : partB [34, 120, 34] = true ∧ isValidID [34, 120, 34] = true := by decide +kernel
example : partB [32, 91, 93] = false ∧ partB [91, 93, 32] = false ∧ partB [91, 93, 93] = false := by decide +kernel

-- non-vacuity
example : toJSON { id := [49], m := [109, 34, 10] } =
    prefixLit ++ idLit ++ [49] ++ methodLit ++ [34, 109, 92, 34, 92, 110, 34] ++ [125] := by decide +kernel
example : valid (toJSON { id := [49], m := [109, 34, 10], p := [91, 93] }) = true := by decide +kernel

end Jrpc.Props.C13
