import Jrpc.Model.Wire
import Jrpc.Proofs.Basic
/-! # C02 — JSON-RPC 2.0 conformance on arbitrary inbound records

The theorems are about the logic layer and hold for *every* `MemberView` (every set of keys and
raw values `encoding/json` can hand over) and every byte string through `envelope`. -/
namespace Jrpc.Props.C02
open Jrpc.Wire Jrpc.Json

/-- undecodable JSON ⇒ exactly one error object with id null and code −32700; no handler -/
theorem undecodable_is_parse_error (cfg : Cfg) (data : Bytes) (h : valid data = false) :
    serve cfg data = ⟨.single ⟨nullText, [ParseError]⟩, []⟩ := by
  simp [serve, envelope, h]

/-- an empty array ⇒ exactly one −32600 with id null; no handler -/
theorem empty_batch (cfg : Cfg) (data : Bytes) (h : envelope data = .batch []) :
    serve cfg data = ⟨.single ⟨nullText, [InvalidRequest]⟩, []⟩ := by
  simp [serve, h]

/-- every code is −32700 or −32600 -/
def Two (l : List Code) : Prop := ∀ c ∈ l, c = ParseError ∨ c = InvalidRequest

theorem two_nil : Two [] := fun _ h => nomatch h

theorem two_single {c : Code} (h : c = ParseError ∨ c = InvalidRequest) : Two [c] :=
  fun _ hc => List.mem_singleton.mp hc ▸ h

theorem two_ite {p : Prop} [Decidable p] {a b : List Code} (ha : Two a) (hb : Two b) :
    Two (if p then a else b) := by
  split <;> assumption

theorem two_append {a b : List Code} (ha : Two a) (hb : Two b) : Two (a ++ b) :=
  fun c hc => (List.mem_append.mp hc).elim (ha c) (hb c)

theorem scanString_two (o : Option Bytes) : Two (scanString o).2 := by
  unfold scanString
  split
  · exact two_nil
  · split
    · exact two_nil
    · exact two_single (.inl rfl)

theorem scanID_two (o : Option Bytes) : Two (scanID o).2 := by
  unfold scanID
  split
  · exact two_nil
  · rw [apply_ite Prod.snd]
    exact two_ite two_nil (two_single (.inr rfl))

theorem scanParams_two (o : Option Bytes) : Two (scanParams o).2 := by
  unfold scanParams
  split
  · exact two_nil
  · exact two_ite (two_single (.inr rfl)) two_nil

theorem scanError_two (o : Option Bytes) : Two (scanError o).2 := by
  unfold scanError
  split
  · exact two_nil
  · rw [apply_ite Prod.snd]
    exact two_ite two_nil (two_single (.inl rfl))

theorem postChecks_two (v m : Bytes) (e : Bool) (r : Bytes) (x : Bool) : Two (postChecks v m e r x) :=
  have inv : Two [InvalidRequest] := two_single (.inr rfl)
  two_ite inv (two_ite inv (two_ite inv two_nil))

/-- every deferred validation error of a member is −32700 or −32600, whatever the member is -/
theorem member_error_codes (mv : MemberView) :
    ∀ c ∈ (parseMember mv).errs, c = ParseError ∨ c = InvalidRequest := by
  have key : ∀ fs, Two (parseObject fs).errs := by
    intro fs
    simp only [parseObject]
    split
    · exact two_append (two_append (two_append (two_append (scanString_two _) (scanID_two _))
        (scanString_two _)) (scanParams_two _)) (scanError_two _)
    · exact postChecks_two _ _ _ _ _
  cases mv with
  | notObject => simp [parseMember]
  | null => exact key []
  | object fs => exact key fs

/-- a handler runs only for a member that is a valid request: no deferred error, a non-empty
method the assigner knows, and an id that is not duplicated inside the batch -/
theorem no_handler_for_invalid (cfg : Cfg) (dups : List Bytes) (j : Msg)
    (h : classify cfg dups j = .run) :
    j.errs = [] ∧ j.m ≠ [] ∧ cfg.known j.m = true ∧ ¬ (fixID j.id ≠ [] ∧ dups.contains (fixID j.id) = true) := by
  simp only [classify, ite_eq_iff, reduceCtorEq, and_false, false_or, or_false, and_true] at h
  obtain ⟨hd, he, hm, hk⟩ := h
  exact ⟨by simpa using he, by simpa using hm, hk, by simpa using hd⟩

/-- the codes the server can answer with: −32700 / −32600 for an invalid member, −32601 only for
a well-formed request whose method has no handler (unknown or reserved) -/
theorem classify_codes (cfg : Cfg) (dups : List Bytes) (mv : MemberView) (codes : List Code)
    (h : classify cfg dups (parseMember mv) = .fail codes) :
    (∀ c ∈ codes, c = ParseError ∨ c = InvalidRequest) ∨
    (codes = [MethodNotFound] ∧ (parseMember mv).errs = [] ∧ (parseMember mv).m ≠ [] ∧
      cfg.known (parseMember mv).m = false) := by
  simp only [classify, ite_eq_iff, reduceCtorEq, and_false, false_or, Outcome.fail.injEq] at h
  -- the rows of `checkAndAssignLocked` that fail, in order
  rcases h with ⟨-, rfl⟩ | ⟨-, ⟨-, rfl⟩ | ⟨he, ⟨-, rfl⟩ | ⟨hm, hk, rfl⟩⟩⟩
  · exact .inl (two_single (.inr rfl))
  · exact .inl (member_error_codes mv)
  · exact .inl (two_single (.inr rfl))
  · exact .inr ⟨rfl, by simpa using he, by simpa using hm, by simpa using hk⟩

/-- a call is answered whatever the outcome, under its own id -/
theorem respond_call {j : Msg} (h : fixID j.id ≠ []) (o : Outcome) :
    respond j o = some ⟨fixID j.id, match o with | .run => [] | .fail codes => codes⟩ := by
  cases o <;> simp [respond, h]

/-- an id-less member is answered only when it was refused with −32700 / −32600 codes, under `null` -/
theorem respond_idless {j : Msg} (h : fixID j.id = []) (o : Outcome) :
    respond j o = match o with
      | .run => none
      | .fail codes => if codes.all (fun c => c == ParseError || c == InvalidRequest) then some ⟨nullText, codes⟩ else none := by
  cases o <;> simp [respond, h]

/-- the id of a reply entry is the member's own id text, or `null` when the member has none
(absent, invalid type, or the literal `null`) -/
theorem respond_id_echo (j : Msg) (o : Outcome) (e : ReplyEntry) (h : respond j o = some e) :
    (fixID j.id ≠ [] ∧ e.id = fixID j.id) ∨ (fixID j.id = [] ∧ e.id = nullText) := by
  by_cases hid : fixID j.id = []
  · rw [respond_idless hid] at h
    cases o with
    | run => cases h
    | fail codes =>
      obtain ⟨-, h⟩ := Option.ite_none_right_eq_some.mp h
      exact .inr ⟨hid, Option.some.inj h ▸ rfl⟩
  · rw [respond_call hid] at h
    exact .inl ⟨hid, Option.some.inj h ▸ rfl⟩

/-- an echoed id is always a JSON string or number: the field scan keeps only such ids -/
theorem echoed_id_is_string_or_number (fs : List (Bytes × Bytes)) :
    isValidID (parseObject fs).id = true := by
  simp only [parseObject, scanID]
  split
  · decide
  · split
    · assumption
    · decide

/-- a notification is never answered: not when its handler ran, and not for method-not-found -/
theorem notification_silent (j : Msg) (h : fixID j.id = []) :
    respond j .run = none ∧ respond j (.fail [MethodNotFound]) = none :=
  -- −32601 is neither of the two codes an id-less member is answered for: the `if` of `respond_idless` evaluates
  ⟨respond_idless h .run, respond_idless h (.fail [MethodNotFound])⟩

/-- …but parse and validation errors of an id-less member are reported, with id null -/
theorem idless_invalid_reported (j : Msg) (codes : List Code) (h : fixID j.id = [])
    (hc : ∀ c ∈ codes, c = ParseError ∨ c = InvalidRequest) :
    respond j (.fail codes) = some ⟨nullText, codes⟩ := by
  rw [respond_idless h]
  exact if_pos (by simpa only [List.all_eq_true, Bool.or_eq_true, beq_iff_eq] using hc)

/-- a call is always answered, with its own id -/
theorem call_answered (j : Msg) (o : Outcome) (h : fixID j.id ≠ []) :
    ∃ codes, respond j o = some ⟨fixID j.id, codes⟩ :=
  ⟨_, respond_call h o⟩

/-- an id of `null` counts as absent -/
theorem null_id_counts_as_absent : isValidID nullText = true ∧ fixID nullText = [] := by decide

/-- on a push-enabled server a reply-shaped member that matches no outstanding callback is
dropped before it is queued (so it is neither answered nor handled) -/
theorem unmatched_reply_dropped (cfg : Cfg) (j : Msg) (hp : cfg.allowPush = true) (hm : j.m = [])
    (hr : j.hasE = true ∨ j.r ≠ []) : keepMember cfg j = false := by
  unfold keepMember Msg.isRequestOrNotification
  rcases hr with h | h <;> simp [hp, hm, h]

/-- without push (or for anything that is not reply-shaped) every member is kept and answered -/
theorem non_push_keeps_all (cfg : Cfg) (j : Msg) (hp : cfg.allowPush = false) : keepMember cfg j = true := by
  simp [keepMember, hp]

/-- the reply is an array only for an inbound array, and a bare object only for a bare value
(the two envelope errors aside) -/
theorem reply_shape (cfg : Cfg) (data r : Bytes) (h : envelope data = .single r) :
    ∀ es, (serve cfg data).reply ≠ .array es := by
  intro es
  simp only [serve, h]
  generalize hk : List.filterMap _ _ = entries
  have hlen : entries.length ≤ 1 := by
    rw [← hk]
    refine Nat.le_trans (List.length_filterMap_le _ _) ?_
    rw [List.length_map]
    exact List.length_filter_le _ [_]
  match entries, hlen with
  | [], _ => simp
  | [e], _ => simp
  | _ :: _ :: _, hl => simp at hl

-- non-vacuity: concrete members
example : (parseMember (.object [(kJsonrpc, [34, 50, 46, 48, 34]), (kId, [116, 114, 117, 101]), (kMethod, [34, 109, 34])])).errs = [InvalidRequest] := by decide +kernel
example : classify ⟨false, fun _ => false⟩ [] (parseMember (.object [(kJsonrpc, [34, 50, 46, 48, 34]), (kId, [49]), (kMethod, [34, 109, 34])])) = .fail [MethodNotFound] := by decide +kernel

end Jrpc.Props.C02
