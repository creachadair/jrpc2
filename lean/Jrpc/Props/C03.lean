import Jrpc.Proofs.Barrier
/-! # C03 — a notification completes before any later-arriving request starts -/
namespace Jrpc.Props.C03
open Jrpc.Barrier

/-- the order clauses of the invariant in one statement: a notification that arrived in an earlier
inbound message than some request that is past the barrier is done -/
theorem earlier_notes_done {s : St} (h : Inv s) {r n : Mem} (hr : r ∈ passed s) (hn : n ∈ s.notes)
    (hlt : n.seq < r.seq) : n ∈ s.done :=
  (h.notesWhere n hn).elim (fun w => h.order r hr n w (h.notesAre n hn) hlt)
    fun w => absurd (h.below r hr n w) (Nat.not_le_of_lt hlt)

theorem inv_reach {es : List Ev} {s : St} (hr : run init es = some s) : Inv s :=
  isRun.invariant inv_step inv_init hr

/-- **notification order**: in every run of the machine (any arrival sequence, any handler
durations, any interleaving of reader, dispatcher, handler goroutines and `Stop`), at the moment
a handler is started for a request `r`, every notification that arrived in an earlier inbound
message has completely finished (its handler returned and the barrier was signalled) -/
theorem notification_order (es : List Ev) (s : St) (hr : run init es = some s)
    (u : Nat) (s' : St) (hstart : step s (.start u) = some s') :
    ∃ r, s.released.find? (·.uid = u) = some r ∧
      ∀ n ∈ s.notes, n.seq < r.seq → n ∈ s.done := by
  obtain ⟨r, hf, -⟩ := step_start hstart
  have hrp : r ∈ passed s := by simp [passed, List.mem_of_find?_eq_some hf]
  exact ⟨r, hf, fun n => earlier_notes_done (inv_reach hr) hrp⟩

/-- `done` only grows. (It is entered through `finish` for a call and through `finish` then `signal`
for a notification, so "in `done`" means "its handler has returned".) -/
theorem done_monotone (s : St) (e : Ev) (s' : St) (h : step s e = some s') : ∀ m ∈ s.done, m ∈ s'.done := by
  intro m hm
  cases e with
  | arrive ms =>
    cases h
    exact hm
  | pop =>
    obtain ⟨_, _, _, _, rfl⟩ := step_pop h
    exact hm
  | pass =>
    obtain ⟨_, _, _, rfl⟩ := step_pass h
    exact hm
  | start u =>
    obtain ⟨_, _, rfl⟩ := step_start h
    exact hm
  | finish u =>
    obtain ⟨_, _, ⟨_, rfl⟩ | ⟨_, rfl⟩⟩ := step_finish h
    · exact hm
    · exact List.mem_cons_of_mem _ hm
  | signal u =>
    obtain ⟨_, _, rfl⟩ := step_signal h
    exact List.mem_cons_of_mem _ hm
  | stop =>
    cases h
    exact hm

/-- a running *call* never holds the barrier: the counter counts unfinished notifications only,
so with no notification outstanding the dispatcher passes, however many calls are running -/
theorem calls_do_not_delay (es : List Ev) (s : St) (hr : run init es = some s)
    (hnotes : ∀ m ∈ live s, m.note = false) (b : List Mem) (hp : s.parked = some b) :
    ∃ s', step s .pass = some s' := by
  have hinv := inv_reach hr
  have hz : s.nbar = 0 := hinv.nbar_eq.trans (countNotes_eq_zero.mpr hnotes)
  simp [step, hp, hz]

/-- **the dispatcher is never wedged**: in every reachable state in which a batch is waiting at
the barrier, the handlers in flight can finish and the batch then passes -/
theorem parked_batch_passes (es : List Ev) (s : St) (hr : run init es = some s)
    (b : List Mem) (hp : s.parked = some b) :
    ∃ es' s', run s es' = some s' ∧ s'.parked = none ∧ ∀ m ∈ b, m ∈ s'.released := by
  obtain ⟨es1, s1, hrun1, hl1, hp1, -⟩ := drain s
  have hinv1 := isRun.invariant inv_step (inv_reach hr) hrun1
  have hz : s1.nbar = 0 := hinv1.nbar_eq.trans (congrArg countNotes hl1)
  refine ⟨es1 ++ [.pass], { s1 with parked := none, nbar := countNotes b, released := s1.released ++ b }, ?_, rfl,
    fun m hm => List.mem_append_right _ hm⟩
  rw [isRun.append, hrun1]
  simp [run, step, hp1.trans hp, hz]

/-- and the dispatcher always takes the next batch when it is idle -/
theorem pop_enabled (s : St) (b : List Mem) (q : List (List Mem)) (hp : s.parked = none) (hq : s.queue = b :: q) :
    ∃ s', step s .pop = some s' := by simp [step, hp, hq]

/-- the model does not over-serialise: members of one inbound message may run concurrently -/
theorem same_batch_concurrent :
    ∃ s, run init [.arrive [(1, false), (2, true)], .pop, .pass, .start 1, .start 2] = some s ∧
      s.running.length = 2 :=
  ⟨_, rfl, rfl⟩

/-- a later call does wait for an earlier notification: `pass` is refused while it runs -/
example : run init [.arrive [(1, true)], .arrive [(2, false)], .pop, .pass, .start 1, .pop, .pass] = none := by decide +kernel
/-- …and proceeds once the notification has finished and signalled -/
example : (run init [.arrive [(1, true)], .arrive [(2, false)], .pop, .pass, .start 1, .pop, .finish 1, .signal 1, .pass, .start 2]).isSome = true := by decide +kernel

end Jrpc.Props.C03
