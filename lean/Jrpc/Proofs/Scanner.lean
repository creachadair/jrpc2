import Jrpc.Model.Json
import Jrpc.Proofs.Basic
/-! Facts about the scanner automaton and the splitter that the byte-level proofs share: what the
sub-functions of `step` can return, the splitter's scanner state, and the shapes of `escByte`. -/
namespace Jrpc.Json

theorem isRun : IsRun step run := ⟨fun _ => rfl, fun _ _ _ => rfl⟩
theorem cutIsRun : IsRun cutStep cutRun := ⟨fun _ => rfl, fun _ _ _ => rfl⟩

theorem run_append (s : S) (a b : Bytes) : run s (a ++ b) = (run s a).bind (run · b) :=
  isRun.append s a b

theorem cutStep_state (c : Cut) (b : UInt8) : (cutStep c b).map (·.s) = step c.s b := by
  unfold cutStep
  cases step c.s b with
  | none => rfl
  | some s' => simp only [apply_ite (Option.map _), Option.map_some, ite_self]

theorem cutRun_state (c : Cut) (bs : Bytes) : (cutRun c bs).map (·.s) = run c.s bs := by
  induction bs generalizing c with
  | nil => rfl
  | cons b r ih =>
    rw [cutRun, run, ← cutStep_state]
    cases cutStep c b with
    | none => rfl
    | some c' => exact ih c'

/-! ### what `step` and its sub-functions return

A fact about every state a partial function returns is stated as a predicate on the `Option`,
`Returns P o`: `simp only [apply_ite (Returns P), returns_some, returns_none, …]` then walks an `if`
cascade in one pass (a sweep `first | exact … | …` over the arms is far dearer: every alternative that
fails unfolds the sub-functions on the way). `Emit` has the same for a relation between two
cascades, `LiftsTo`. -/

def Returns (P : S → Prop) (o : Option S) : Prop := ∀ s', o = some s' → P s'

theorem returns_some {P : S → Prop} {s : S} : Returns P (some s) ↔ P s := by simp [Returns]

theorem returns_none {P : S → Prop} : Returns P none := fun _ h => nomatch h

theorem beginValue_q (st : List Frame) (c : UInt8) : Returns (·.q ≠ .endTop) (beginValue st c) := by
  unfold beginValue push
  simp only [apply_ite (Returns _), returns_some, returns_none, ne_eq, reduceCtorEq,
    not_false_eq_true, ite_self]

theorem beginString_q (st : List Frame) (c : UInt8) : Returns (·.q ≠ .endTop) (beginString st c) := by
  unfold beginString
  simp only [apply_ite (Returns _), returns_some, returns_none, ne_eq, reduceCtorEq,
    not_false_eq_true, ite_self]

theorem lit_q (st : List Frame) (c w : UInt8) {nx : Q} (hn : nx ≠ .endTop) :
    Returns (·.q ≠ .endTop) (lit st c w nx) := by
  unfold lit
  simp only [apply_ite (Returns _), returns_some, returns_none, ne_eq, hn, not_false_eq_true, ite_self]

/-- `endTop` is reached with an empty stack only: it is produced by `endValue` and `pop` alone -/
def TopInv (s : S) : Prop := s.q = .endTop → s.st = []

theorem topInv_of_ne {s : S} (h : s.q ≠ .endTop) : TopInv s := fun hq => absurd hq h

theorem returns_topInv {o : Option S} (h : Returns (·.q ≠ .endTop) o) : Returns TopInv o :=
  fun s' hs => topInv_of_ne (h s' hs)

theorem pop_inv (st : List Frame) : TopInv (pop st) := by
  unfold pop
  split <;> simp [TopInv]

theorem endValue_inv (st : List Frame) (c : UInt8) : Returns TopInv (endValue st c) := by
  unfold endValue
  cases st with
  | nil => simp only [apply_ite (Returns _), returns_some, returns_none, TopInv, ite_self, implies_true]
  | cons x r =>
    cases x <;> simp only [apply_ite (Returns _), returns_some, returns_none, pop_inv, ite_self,
      topInv_of_ne, ne_eq, reduceCtorEq, not_false_eq_true]

theorem step_inv {s s' : S} {b : UInt8} (hi : TopInv s) (h : step s b = some s') : TopInv s' := by
  suffices Returns TopInv (step s b) from this s' h
  obtain ⟨q, st⟩ := s
  cases q
  case beginStringOrEmpty =>
    cases st <;> simp only [step, apply_ite (Returns _), returns_some, returns_none, endValue_inv,
      returns_topInv (beginString_q _ _), hi, ite_self]
  all_goals
    -- the last `_` of `lit_q` is its premise `nx ≠ .endTop`; `simp` discharges it by `reduceCtorEq`
    simp only [step, apply_ite (Returns _), returns_some, returns_none, endValue_inv,
      returns_topInv (beginValue_q _ _), returns_topInv (beginString_q _ _),
      returns_topInv (lit_q _ _ _ _), hi, topInv_of_ne, ne_eq, reduceCtorEq, not_false_eq_true, ite_self]

/-- the two-character escapes of `json.Marshal`: byte, letter after the backslash -/
def shortEsc : List (UInt8 × UInt8) :=
  [(34, 34), (92, 92), (8, 98), (12, 102), (10, 110), (13, 114), (9, 116)]

/-- (`c.toNat < 128` in the second shape: it is what makes `\u00XY` decode to the one byte `c`,
`utf8 c.toNat = [c]`) -/
theorem escByte_shape (c : UInt8) :
    (∃ e, (c, e) ∈ shortEsc ∧ escByte c = [92, e]) ∨
    (c.toNat < 128 ∧
      escByte c = [92, 117, 48, 48, hexDigitByte (c.toNat / 16), hexDigitByte (c.toNat % 16)]) ∨
    (c ≠ 34 ∧ c ≠ 92 ∧ ¬ c < 32 ∧ escByte c = [c]) := by
  unfold escByte
  by_cases h1 : c = 34; · subst h1; exact .inl ⟨_, by decide, rfl⟩
  by_cases h2 : c = 92; · subst h2; exact .inl ⟨_, by decide, rfl⟩
  by_cases h3 : c = 8; · subst h3; exact .inl ⟨_, by decide, rfl⟩
  by_cases h4 : c = 12; · subst h4; exact .inl ⟨_, by decide, rfl⟩
  by_cases h5 : c = 10; · subst h5; exact .inl ⟨_, by decide, rfl⟩
  by_cases h6 : c = 13; · subst h6; exact .inl ⟨_, by decide, rfl⟩
  by_cases h7 : c = 9; · subst h7; exact .inl ⟨_, by decide, rfl⟩
  simp only [beq_iff_eq, h1, h2, h3, h4, h5, h6, h7, if_false]
  by_cases h8 : (decide (c < 32) || c == 60 || c == 62 || c == 38) = true
  · refine .inr (.inl ⟨?_, by simp only [h8, if_true]⟩)
    simp only [Bool.or_eq_true, decide_eq_true_eq, beq_iff_eq] at h8
    rcases h8 with ((h | h) | h) | h
    · exact Nat.lt_trans (UInt8.lt_iff_toNat_lt.mp h) (by decide)
    all_goals (subst h; decide)
  · refine .inr (.inr ⟨h1, h2, ?_, by simp only [h8, Bool.false_eq_true, if_false]⟩)
    intro h
    simp [h] at h8

theorem hexDigitByte_spec (n : Nat) (h : n < 16) :
    hexv (hexDigitByte n) = n ∧ isHex (hexDigitByte n) = true ∧ 32 ≤ hexDigitByte n := by
  revert n; decide

end Jrpc.Json
