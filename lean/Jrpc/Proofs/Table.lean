import Jrpc.Proofs.Basic
/-! A write-once completion table, as the client keeps for its requests (`Jrpc.Client`) and the
server for its callbacks (`Jrpc.Push`): ids are taken from a counter `next`, wait in `pend`, and move
to `slots` together with what they were completed with. -/
namespace Jrpc.Table
variable {ρ : Type} {next id : Nat} {pend pend' : List Nat} {slots slots' : List (Nat × ρ)}

/-- every id the table holds, waiting or completed -/
def ids (pend : List Nat) (slots : List (Nat × ρ)) : List Nat := pend ++ slots.map (·.1)

theorem ids_append (new pend : List Nat) (slots : List (Nat × ρ)) :
    ids (new ++ pend) slots = new ++ ids pend slots := List.append_assoc ..

theorem ids_complete (hid : id ∈ pend) (r : ρ) :
    (ids (pend.erase id) ((id, r) :: slots)).Perm (ids pend slots) :=
  perm_move hid [] _

theorem ids_drain (r : ρ) : ids [] (pend.map (fun i => (i, r)) ++ slots) = ids pend slots := by
  simp [ids, Function.comp_def]

/-- no id is held twice, waiting or completed, and every id held came from the counter -/
structure Inv (next : Nat) (pend : List Nat) (slots : List (Nat × ρ)) : Prop where
  nodup : (ids pend slots).Nodup
  fresh : ∀ i ∈ ids pend slots, i < next

namespace Inv

theorem pendNodup (h : Inv next pend slots) : pend.Nodup := (List.nodup_append.mp h.nodup).1

theorem slotOnce (h : Inv next pend slots) : (slots.map (·.1)).Nodup := (List.nodup_append.mp h.nodup).2.1

theorem pendFresh (h : Inv next pend slots) : ∀ i ∈ pend, i < next :=
  fun i hi => h.fresh i (List.mem_append_left _ hi)

theorem slotFresh (h : Inv next pend slots) : ∀ p ∈ slots, p.1 < next :=
  fun p hp => h.fresh p.1 (List.mem_append_right _ (List.mem_map_of_mem hp))

theorem empty : Inv next [] ([] : List (Nat × ρ)) := ⟨List.nodup_nil, nofun⟩

theorem mono {m : Nat} (h : Inv next pend slots) (hm : next ≤ m) : Inv m pend slots :=
  ⟨h.nodup, fun i hi => Nat.lt_of_lt_of_le (h.fresh i hi) hm⟩

theorem of_perm (h : Inv next pend slots) (hp : (ids pend' slots').Perm (ids pend slots)) :
    Inv next pend' slots' :=
  ⟨hp.nodup_iff.mpr h.nodup, fun i hi => h.fresh i (hp.mem_iff.mp hi)⟩

theorem complete (h : Inv next pend slots) (hid : id ∈ pend) (r : ρ) :
    Inv next (pend.erase id) ((id, r) :: slots) := h.of_perm (ids_complete hid r)

theorem drain (h : Inv next pend slots) (r : ρ) : Inv next [] (pend.map (fun i => (i, r)) ++ slots) :=
  h.of_perm (.of_eq (ids_drain r))

theorem register {new : List Nat} (h : Inv next pend slots) (hn : new.Nodup)
    (hnew : ∀ i ∈ new, i < next ∧ i ∉ ids pend slots) : Inv next (new ++ pend) slots where
  nodup := ids_append .. ▸ List.nodup_append.mpr ⟨hn, h.nodup, fun a ha _ hb e => (hnew a ha).2 (e ▸ hb)⟩
  fresh i hi := by
    rw [ids_append, List.mem_append] at hi
    exact hi.elim (fun hi => (hnew i hi).1) (h.fresh i)

theorem push (h : Inv next pend slots) : Inv (next + 1) (next :: pend) slots where
  nodup := List.nodup_cons.mpr ⟨fun hm => Nat.lt_irrefl _ (h.fresh _ hm), h.nodup⟩
  fresh := List.forall_mem_cons.mpr ⟨Nat.lt_succ_self _, fun i hi => Nat.lt_succ_of_lt (h.fresh i hi)⟩

end Inv
end Jrpc.Table
