/-! General lemmas used across the proofs: opening an `if` cascade, and runs of an event machine.

An idiom of the property files that no lemma here captures: an invariant `h : Inv s` (a structure of
propositions) is rebuilt at the next state as `{ h with clause := … }`. The clauses not given are
taken from `h`; that type-checks because they do not mention the fields the event changed
(`{ h with }`: none of the clauses does). -/
namespace Jrpc

/-- Opens one level of an `if` cascade. With `simp only [ite_eq_iff, reduceCtorEq, and_false, …]` a
statement `cascade = x` becomes the disjunction of the paths that lead to `x`, in time linear in the
depth; `split` re-simplifies the remaining cascade in both branches and is exponential in it. -/
theorem ite_eq_iff {α : Sort _} {c : Prop} [Decidable c] {a b x : α} :
    (if c then a else b) = x ↔ (c ∧ a = x) ∨ (¬c ∧ b = x) := by
  split <;> simp [*]

/-- For an event whose arm of `step` is `if c then some t else none`: used as
`guarded hs fun hc => …` with `hs : step s e = some s'`, the arm being found by unfolding `step`. -/
theorem guarded {σ : Type _} {P : σ → Prop} {c : Prop} [Decidable c] {t s' : σ}
    (hs : (if c then some t else none) = some s') (h : c → P t) : P s' := by
  obtain ⟨hc, hs⟩ := Option.ite_none_right_eq_some.mp hs
  exact Option.some.inj hs ▸ h hc

theorem guarded_not {σ : Type _} {P : σ → Prop} {c : Prop} [Decidable c] {t s' : σ}
    (hs : (if c then none else some t) = some s') (h : ¬c → P t) : P s' := by
  obtain ⟨hc, hs⟩ := Option.ite_none_left_eq_some.mp hs
  exact Option.some.inj hs ▸ h hc

/-- Taking `m` out of `a` and putting it back further right, behind `b`, permutes the concatenation
(`b = []`: to the head of the next list). -/
theorem perm_move {α : Type _} [DecidableEq α] {m : α} {a : List α} (hm : m ∈ a) (b c : List α) :
    (a.erase m ++ (b ++ m :: c)).Perm (a ++ (b ++ c)) :=
  (List.perm_middle.append_left _).trans <| List.perm_middle.trans <|
    (List.perm_cons_erase hm).symm.append_right _

/-- `run` folds the partial step function `step` over a list of events, stopping at the first event
that is not enabled. Every machine of the model defines its own `run` of this shape. -/
structure IsRun {σ ε : Type} (step : σ → ε → Option σ) (run : σ → List ε → Option σ) : Prop where
  nil : ∀ s, run s [] = some s
  cons : ∀ s e es, run s (e :: es) = (step s e).bind (run · es)

namespace IsRun
variable {σ ε : Type} {step : σ → ε → Option σ} {run : σ → List ε → Option σ}

theorem invariant (hr : IsRun step run) {P : σ → Prop}
    (hstep : ∀ {s e s'}, P s → step s e = some s' → P s') {es : List ε} {s s' : σ}
    (h : P s) (hrun : run s es = some s') : P s' := by
  induction es generalizing s with
  | nil => rw [hr.nil] at hrun; exact Option.some.inj hrun ▸ h
  | cons e es ih =>
    rw [hr.cons] at hrun
    obtain ⟨s1, h1, h2⟩ := Option.bind_eq_some_iff.mp hrun
    exact ih (hstep h h1) h2

theorem append (hr : IsRun step run) (s : σ) (a b : List ε) :
    run s (a ++ b) = (run s a).bind (run · b) := by
  induction a generalizing s with
  | nil => rw [hr.nil]; rfl
  | cons e es ih =>
    rw [List.cons_append, hr.cons, hr.cons]
    cases step s e with
    | none => rfl
    | some t => exact ih t

end IsRun

/-- the same for a machine whose events are always enabled (`Client`, `Push`) -/
theorem invariant_total {σ ε : Type} {step : σ → ε → σ} {run : σ → List ε → σ}
    (hnil : ∀ s, run s [] = s) (hcons : ∀ s e es, run s (e :: es) = run (step s e) es)
    {P : σ → Prop} (hstep : ∀ e {s}, P s → P (step s e)) (es : List ε) {s : σ} (h : P s) :
    P (run s es) := by
  induction es generalizing s with
  | nil => rwa [hnil]
  | cons e es ih =>
    rw [hcons]
    exact ih (hstep e h)

theorem two_le_length {α : Type} [DecidableEq α] {l : List α} {a b : α} (ha : a ∈ l) (hb : b ∈ l)
    (hab : a ≠ b) : 2 ≤ l.length := by
  have := List.length_pos_of_mem ((List.mem_erase_of_ne hab.symm).mpr hb)
  rw [List.length_erase_of_mem ha] at this
  omega

end Jrpc
