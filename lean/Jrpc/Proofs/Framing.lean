import Jrpc.Model.Framing
/-! `cutAt` on its inputs, and successive receives (`recvN`) on the stream a sender writes. -/
namespace Jrpc.Framing
open Jrpc.Json (Bytes)

theorem cutAt_prefix {d : UInt8} {msg : Bytes} (h : d ∉ msg) (t : Bytes) :
    cutAt d (msg ++ t) = (msg ++ (cutAt d t).1, (cutAt d t).2) := by
  induction msg with
  | nil => rfl
  | cons b r ih =>
    simp only [List.mem_cons, not_or] at h
    simp [cutAt, Ne.symm h.1, ih h.2]

theorem cutAt_append {d : UInt8} {msg : Bytes} (h : d ∉ msg) (rest : Bytes) :
    cutAt d (msg ++ d :: rest) = (msg, some rest) := by
  simp [cutAt_prefix h, cutAt]

theorem cutAt_none {d : UInt8} {s : Bytes} (h : d ∉ s) : cutAt d s = (s, none) := by
  simpa [cutAt] using cutAt_prefix h []

theorem cutAt_cases (d : UInt8) (s : Bytes) :
    (∃ r rest, s = r ++ d :: rest ∧ d ∉ r ∧ cutAt d s = (r, some rest)) ∨ (d ∉ s ∧ cutAt d s = (s, none)) := by
  by_cases h : d ∈ s
  · obtain ⟨r, rest, rfl, hr⟩ := List.eq_append_cons_of_mem h
    exact .inl ⟨r, rest, rfl, hr, cutAt_append hr rest⟩
  · exact .inr ⟨h, cutAt_none h⟩

theorem recvN_nil (k : Kind) (n : Nat) : recvN k n [] = List.replicate n (.err .eof) := by
  induction n with
  | zero => rfl
  | succ m ih =>
    cases k with
    | split d => simp [recvN, recv1, splitRecv, cutAt, List.replicate_succ, ih]
    | hdr cfg => simp [recvN, recv1, hdrRecv', hdrRecv, hdrLoop, readLine, List.replicate_succ, ih]
    | raw => simp [recvN, recv1, rawRecv, rawScan, List.replicate_succ]

theorem recvN_ok {k : Kind} {s r rest : Bytes} (h : recv1 k s = (.ok r, rest)) (n : Nat) :
    recvN k (n + 1) s = .ok r :: recvN k n rest := by
  simp only [recvN, h]

/-- Round trip of a receive loop `f` over a queue or stream `stream rs` that holds the records `rs`:
if one receive takes the first record off and an empty one keeps failing, successive receives
return the records in order and then fail for ever. -/
theorem roundtrip {σ : Type} {f : Nat → σ → List Res} {stream : List Bytes → σ} {P : Bytes → Prop}
    (hnil : ∀ n, f n (stream []) = List.replicate n (.err .eof))
    (hcons : ∀ n r rs, P r → f (n + 1) (stream (r :: rs)) = .ok r :: f n (stream rs))
    (rs : List Bytes) (hP : ∀ r ∈ rs, P r) (n : Nat) :
    f (rs.length + n) (stream rs) = rs.map .ok ++ List.replicate n (.err .eof) := by
  induction rs with
  | nil => simpa using hnil n
  | cons r rs ih =>
    obtain ⟨hr, hrs⟩ := List.forall_mem_cons.mp hP
    rw [List.length_cons, Nat.add_right_comm, hcons _ r rs hr, ih hrs]
    rfl

/-- the same for `recvN k` on the byte stream `stream rs`, in which `frame r rest` is the record `r`
as sent, followed by `rest` -/
theorem recvN_roundtrip (k : Kind) {frame : Bytes → Bytes → Bytes} {P : Bytes → Prop}
    (h1 : ∀ r rest, P r → recv1 k (frame r rest) = (.ok r, rest))
    {stream : List Bytes → Bytes} (hnil : stream [] = []) (hcons : ∀ r rs, stream (r :: rs) = frame r (stream rs))
    (rs : List Bytes) (hP : ∀ r ∈ rs, P r) (n : Nat) :
    recvN k (rs.length + n) (stream rs) = rs.map .ok ++ List.replicate n (.err .eof) :=
  roundtrip (fun n => hnil ▸ recvN_nil k n) (fun n r rs hr => by rw [hcons, recvN_ok (h1 r _ hr)]) rs hP n

end Jrpc.Framing
