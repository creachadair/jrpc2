import Jrpc.Model.Wire
import Jrpc.Proofs.Emit
import Jrpc.Proofs.Quote
/-! Helper lemmas: an emitted message is the object text of its members; the member splitter, key
decoding and the member parser take it back to the same id, method, params, result or error. -/
namespace Jrpc.Wire
open Jrpc.Json

theorem prefixLit_eq : prefixLit = 123 :: (quote kJsonrpc ++ 58 :: quote version) := by decide
theorem idLit_eq : idLit = 44 :: (quote kId ++ [58]) := by decide
theorem methodLit_eq : methodLit = 44 :: (quote kMethod ++ [58]) := by decide
theorem paramsLit_eq : paramsLit = 44 :: (quote kParams ++ [58]) := by decide
theorem resultLit_eq : resultLit = 44 :: (quote kResult ++ [58]) := by decide
theorem errorLit_eq : errorLit = 44 :: (quote kError ++ [58]) := by decide

theorem objText_cons (k v : Bytes) (rest : List (Bytes × Bytes)) :
    objText ((k, v) :: rest) =
      123 :: (k ++ 58 :: v) ++ (rest.map fun kv => 44 :: (kv.1 ++ 58 :: kv.2)).flatten ++ [125] := by
  induction rest generalizing k v with
  | nil => simp [objText, objBody]
  | cons kv r ih =>
    have := ih kv.1 kv.2
    simp only [objText, objBody, List.cons_append, List.cons.injEq, true_and] at this ⊢
    simp [this]

/-- the decoded members `toJSON` writes, in order (the keys are written through `quote`) -/
def emitted (j : OutMsg) : List (Bytes × Bytes) :=
  (kJsonrpc, quote version) :: ((if j.id = [] then [] else [(kId, j.id)]) ++
    (if j.m ≠ [] then (kMethod, quote j.m) :: (if j.p = [] then [] else [(kParams, j.p)])
     else if j.r ≠ [] then [(kResult, j.r)]
     else match j.e with
       | some e => [(kError, e)]
       | none => []))

def quoteKeys (fs : List (Bytes × Bytes)) : List (Bytes × Bytes) := fs.map fun kv => (quote kv.1, kv.2)

theorem toJSON_eq_objText (j : OutMsg) : toJSON j = objText (quoteKeys (emitted j)) := by
  obtain ⟨id, m, p, r, e, b⟩ := j
  cases e <;>
    simp [toJSON, emitted, quoteKeys, objText_cons, prefixLit_eq, idLit_eq, methodLit_eq, paramsLit_eq,
      resultLit_eq, errorLit_eq, apply_ite (List.map _), apply_ite List.flatten]

/-- **an object written with quoted keys and pre-encoded values** is split by the decoder into
exactly the members written -/
theorem members_quoteKeys {fs : List (Bytes × Bytes)} (hne : fs ≠ []) (h : ∀ kv ∈ fs, Part kv.2) :
    members (objText (quoteKeys fs)) = some (quoteKeys fs) :=
  members_objText _ (mt List.map_eq_nil_iff.mp hne) fun qkv hq => by
    obtain ⟨kv, hkv, rfl⟩ := List.mem_map.mp hq
    exact good_part _ _ (h kv hkv)

/-- and its keys decode to the ones written -/
theorem memberView_quoteKeys {fs : List (Bytes × Bytes)} (hne : fs ≠ []) (h : ∀ kv ∈ fs, Part kv.2) :
    memberView (objText (quoteKeys fs)) = .object fs := by
  have hkeys : (quoteKeys fs).mapM (fun (k, v) => (unquote k).map fun k' => (k', v)) = some fs := by
    clear h hne
    induction fs with
    | nil => rfl
    | cons kv r ih => simp_all [quoteKeys, unquote_quote]
  have hm := members_quoteKeys hne h
  simp only [objText, List.cons_append] at hm
  simp only [objText, List.cons_append, memberView, hm, hkeys]

/-- the values of an emitted message (request, notification, result or error response) are
pre-encoded values as soon as its parts - those that are written - are -/
theorem parts_emitted (j : OutMsg) (hid : j.id = [] ∨ Part j.id)
    (hp : j.m ≠ [] → j.p = [] ∨ Part j.p) (hr : j.m = [] → j.r = [] ∨ Part j.r)
    (he : j.m = [] → j.r = [] → ∀ e, j.e = some e → Part e) : ∀ kv ∈ emitted j, Part kv.2 := by
  intro kv hkv
  obtain ⟨id, m, p, r, e, b⟩ := j
  simp only [emitted, List.mem_cons, List.mem_append] at hkv
  rcases hkv with rfl | hkv | hkv
  · exact part_quote _
  · split at hkv
    · cases hkv
    · cases List.mem_singleton.mp hkv
      exact hid.resolve_left ‹_›
  · split at hkv
    · rcases List.mem_cons.mp hkv with rfl | hkv
      · exact part_quote _
      · split at hkv
        · cases hkv
        · cases List.mem_singleton.mp hkv
          exact (hp ‹_›).resolve_left ‹_›
    · have hm : m = [] := by simpa using ‹¬ m ≠ []›
      split at hkv
      · cases List.mem_singleton.mp hkv
        exact (hr hm).resolve_left ‹_›
      · have hr0 : r = [] := by simpa using ‹¬ r ≠ []›
        cases e with
        | none => cases hkv
        | some e =>
          cases List.mem_singleton.mp hkv
          exact he hm hr0 e rfl

theorem members_toJSON (j : OutMsg) (h : ∀ kv ∈ emitted j, Part kv.2) :
    members (toJSON j) = some (quoteKeys (emitted j)) :=
  toJSON_eq_objText j ▸ members_quoteKeys (List.cons_ne_nil _ _) h

theorem memberView_toJSON (j : OutMsg) (h : ∀ kv ∈ emitted j, Part kv.2) :
    memberView (toJSON j) = .object (emitted j) :=
  toJSON_eq_objText j ▸ memberView_quoteKeys (List.cons_ne_nil _ _) h

theorem isNull_quote (x : Bytes) : isNull (quote x) = false := by
  simp [isNull, quote]

theorem decodeString_quote (x : Bytes) : decodeString (quote x) = some x := by
  simp [decodeString, isNull_quote, unquote_quote]

/-- the member parser takes an array or object text as `params` unchanged and without error -/
theorem scanParams_structured {p : Bytes} (h : firstByte p = 91 ∨ firstByte p = 123) :
    scanParams (some p) = (p, []) := by
  have hn : isNull p = false := by
    cases hn : isNull p with
    | false => rfl
    | true =>
      rw [show p = [110, 117, 108, 108] by simpa [isNull] using hn] at h
      revert h; decide
  simp only [scanParams, hn, Bool.false_eq_true, if_false]
  rcases h with h | h <;> simp [h]

theorem parse_emitted_request (j : OutMsg) (hm : j.m ≠ [])
    (hid : j.id = [] ∨ (Part j.id ∧ isValidID j.id = true))
    (hp : j.p = [] ∨ (Part j.p ∧ (firstByte j.p = 91 ∨ firstByte j.p = 123))) :
    parseMember (memberView (toJSON j)) =
      { v := version, id := j.id, m := j.m, p := j.p, hasE := false, r := [], extra := false, errs := [] } := by
  rw [memberView_toJSON j <| parts_emitted j (hid.imp id (·.1)) (fun _ => hp.imp id (·.1)) (fun h => absurd h hm)
    (fun h => absurd h hm)]
  have hsp : j.p ≠ [] → scanParams (some j.p) = (j.p, []) := fun h2 => scanParams_structured (hp.resolve_left h2).2
  -- with the optional members decided, `emitted j` is a concrete list of keys: every `lookupLast` on it evaluates
  by_cases h1 : j.id = [] <;> by_cases h2 : j.p = [] <;>
    simp (config := { decide := true }) [emitted, hm, h1, h2, parseMember, parseObject, lookupLast, scanString,
      scanID, scanError, postChecks, decodeString_quote, hsp, hid.resolve_left]

theorem parse_emitted_result (j : OutMsg) (hm : j.m = []) (hid : j.id ≠ []) (hr : j.r ≠ [])
    (pid : Part j.id) (hvid : isValidID j.id = true) (pr : Part j.r) :
    parseMember (memberView (toJSON j)) =
      { v := version, id := j.id, m := [], p := [], hasE := false, r := j.r, extra := false, errs := [] } := by
  rw [memberView_toJSON j <| parts_emitted j (.inr pid) (fun h => absurd hm h) (fun _ => .inr pr) (fun _ h => absurd h hr)]
  simp (config := { decide := true }) [emitted, hm, hid, hr, parseMember, parseObject, lookupLast, scanString,
    scanID, scanParams, scanError, postChecks, decodeString_quote, hvid]

/-- executable test for `Part` -/
def partB (v : Bytes) : Bool :=
  (match v with | b :: _ => !isSpace b | [] => false) &&
  (match run start v with | some s1 => atEnd s1 | none => false) &&
  depthOK start v && (v.reverse.dropWhile isSpace == v.reverse)

theorem partB_spec (v : Bytes) (h : partB v = true) : Part v := by
  simp only [partB, Bool.and_eq_true, beq_iff_eq] at h
  obtain ⟨⟨⟨h1, h2⟩, h3⟩, h4⟩ := h
  refine ⟨?_, ?_, h4⟩
  · cases v with
    | nil => cases h1
    | cons b r => exact ⟨b, r, rfl, by simpa using h1⟩
  · cases hr : run start v with
    | none => simp [hr] at h2
    | some s1 => exact ⟨s1, ⟨hr, h3⟩, by simpa [hr] using h2⟩

def kCode : Bytes := [99, 111, 100, 101]
def kMessage : Bytes := [109, 101, 115, 115, 97, 103, 101]
def kData : Bytes := [100, 97, 116, 97]

/-- the members of a marshalled `Error` object: code text, quoted message, data when present -/
def errorMembers (c msg d : Bytes) : List (Bytes × Bytes) :=
  [(quote kCode, c), (quote kMessage, quote msg)] ++ (if d = [] then [] else [(quote kData, d)])

/-- the decoder accepts a marshalled `Error` object: `code` is an int32 literal, `message` a string -/
theorem errorValueOK_marshalled (c msg d : Bytes) (pc : Part c) (hc : int32Literal c = true) (pd : d = [] ∨ Part d) :
    errorValueOK (objText (errorMembers c msg d)) = true := by
  have hm : members (123 :: (objBody (errorMembers c msg d) ++ [125])) = some (errorMembers c msg d) := by
    apply members_objText
    · simp [errorMembers]
    · intro kv hkv
      simp only [errorMembers, List.mem_append, List.mem_cons, List.mem_nil_iff, or_false] at hkv
      rcases hkv with (rfl | rfl) | hkv
      · exact good_part _ _ pc
      · exact good_part _ _ (part_quote _)
      · split at hkv
        · cases hkv
        · cases List.mem_singleton.mp hkv
          exact good_part _ _ (pd.resolve_left ‹_›)
  have l1 : lowerAscii kCode = [99, 111, 100, 101] := by decide
  have l2 : lowerAscii kMessage = [109, 101, 115, 115, 97, 103, 101] := by decide
  have l3 : lowerAscii kData = kData := by decide
  simp only [errorValueOK, objText, List.cons_append, hm]
  by_cases hd : d = [] <;>
    simp (config := { decide := true }) [isNull, errorMembers, hd, unquote_quote, l1, l2, l3, hc, decodeString_quote]

theorem parse_emitted_error (j : OutMsg) (c msg d : Bytes) (hm : j.m = []) (hid : j.id ≠ []) (hr : j.r = [])
    (he : j.e = some (objText (errorMembers c msg d)))
    (pid : Part j.id) (hvid : isValidID j.id = true)
    (pc : Part c) (hc : int32Literal c = true) (pd : d = [] ∨ Part d)
    (pe : Part (objText (errorMembers c msg d))) :
    parseMember (memberView (toJSON j)) =
      { v := version, id := j.id, m := [], p := [], hasE := true, r := [], extra := false, errs := [] } := by
  rw [memberView_toJSON j <| parts_emitted j (.inr pid) (fun h => absurd hm h) (fun _ => .inl hr)
    (fun _ _ e h => by cases he.symm.trans h; exact pe)]
  have hok := errorValueOK_marshalled c msg d pc hc pd
  have hnn : isNull (objText (errorMembers c msg d)) = false := by simp [isNull, objText]
  simp (config := { decide := true }) [emitted, hm, hid, hr, he, parseMember, parseObject, lookupLast, scanString,
    scanID, scanParams, scanError, postChecks, decodeString_quote, hvid, hok, hnn]

/-- the members a request is emitted with -/
def requestMembers (j : OutMsg) : List (Bytes × Bytes) :=
  [(quote kJsonrpc, quote version)] ++ (if j.id = [] then [] else [(quote kId, j.id)]) ++
  [(quote kMethod, quote j.m)] ++ (if j.p = [] then [] else [(quote kParams, j.p)])

end Jrpc.Wire
