import Jrpc.Model.Framing
/-! `digitsVal`, `signSplit` and `atoi` on their inputs; `atoi (itoa n) = n`. -/
namespace Jrpc.Framing
open Jrpc.Json (Bytes isDigit)

/-- value of a little-endian digit list -/
def valR : Bytes → Nat
  | [] => 0
  | c :: r => (c - 48).toNat + 10 * valR r

def allDigits (bs : Bytes) : Prop := ∀ c ∈ bs, isDigit c = true

theorem digitsVal_append (a b : Bytes) (acc : Nat) :
    digitsVal (a ++ b) acc = (digitsVal a acc).bind (digitsVal b) := by
  induction a generalizing acc with
  | nil => rfl
  | cons c r ih =>
    simp only [List.cons_append, digitsVal, ih]
    split <;> rfl

theorem digitsVal_some {xs : Bytes} {a n : Nat} (h : digitsVal xs a = some n) : allDigits xs := by
  induction xs generalizing a with
  | nil => exact fun _ hc => nomatch hc
  | cons c r ih =>
    obtain ⟨hc, hr⟩ := Option.ite_none_right_eq_some.mp h
    exact List.forall_mem_cons.mpr ⟨hc, ih hr⟩

theorem digitsVal_reverse (ds : Bytes) (h : allDigits ds) : digitsVal ds.reverse 0 = some (valR ds) := by
  induction ds with
  | nil => rfl
  | cons c r ih =>
    obtain ⟨hc, hr⟩ := List.forall_mem_cons.mp h
    rw [List.reverse_cons, digitsVal_append, ih hr]
    simp only [Option.bind_some, digitsVal, hc, if_true, valR, Option.some.injEq]
    omega

theorem digit_byte : ∀ k, k < 10 →
    isDigit (48 + k).toUInt8 = true ∧ ((48 + k).toUInt8 - 48).toNat = k := by
  decide

theorem revDigits_spec (fuel n : Nat) (h : n < fuel) :
    valR (revDigits fuel n) = n ∧ allDigits (revDigits fuel n) ∧ revDigits fuel n ≠ [] := by
  induction fuel generalizing n with
  | zero => omega
  | succ f ih =>
    obtain ⟨hd, hv⟩ := digit_byte (n % 10) (Nat.mod_lt _ (by decide))
    unfold revDigits
    refine ⟨?_, ?_, List.cons_ne_nil _ _⟩ <;> split
    · simp only [valR, hv]; omega
    · simp only [valR, hv, (ih (n / 10) (by omega)).1]; omega
    · exact List.forall_mem_cons.mpr ⟨hd, fun _ hc => nomatch hc⟩
    · exact List.forall_mem_cons.mpr ⟨hd, (ih (n / 10) (by omega)).2.1⟩

theorem digitsVal_itoa (n : Nat) : digitsVal (itoa n) 0 = some n ∧ itoa n ≠ [] ∧ allDigits (itoa n) := by
  obtain ⟨h1, h2, h3⟩ := revDigits_spec (n + 1) n (by omega)
  refine ⟨?_, by simpa [itoa] using h3, fun c hc => h2 c (by simpa [itoa] using hc)⟩
  rw [itoa, digitsVal_reverse _ h2, h1]

theorem signSplit_digits {bs : Bytes} (h : allDigits bs) : signSplit bs = (false, bs) := by
  unfold signSplit
  split
  · exact absurd (h 43 (List.mem_cons_self ..)) (by decide)
  · exact absurd (h 45 (List.mem_cons_self ..)) (by decide)
  · rfl

/-- what `atoi` accepts: after the optional sign at least one byte, digits only, and a value that
fits 64 bits -/
theorem atoi_some {bs : Bytes} {n : Int} (h : atoi bs = some n) :
    (signSplit bs).2 ≠ [] ∧ allDigits (signSplit bs).2 ∧
      -9223372036854775808 ≤ n ∧ n ≤ 9223372036854775807 := by
  unfold atoi at h
  obtain ⟨hne, h⟩ := Option.ite_none_left_eq_some.mp h
  refine ⟨hne, ?_⟩
  cases hd : digitsVal (signSplit bs).2 0 with
  | none => simp [hd] at h
  | some m =>
    refine ⟨digitsVal_some hd, ?_⟩
    simp only [hd] at h
    split at h
    all_goals
      obtain ⟨_, h⟩ := Option.ite_none_right_eq_some.mp h
      have := Option.some.inj h
      omega

/-- `Atoi(Itoa(n)) = n` for every length an `int` can hold -/
theorem atoi_itoa (n : Nat) (h : n ≤ 9223372036854775807) : atoi (itoa n) = some (n : Int) := by
  obtain ⟨h1, h2, h3⟩ := digitsVal_itoa n
  simp [atoi, signSplit_digits h3, h1, h2, h]

end Jrpc.Framing
