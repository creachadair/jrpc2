import Jrpc.Proofs.Scanner
/-! Helper lemmas: decoding a string literal that `quote` (the model of `json.Marshal` on a Go
string) produced gives the string back, for every byte string. -/
namespace Jrpc.Json

theorem hex4_lit (a b c d : UInt8) (r : Bytes) (ha : isHex a = true) (hb : isHex b = true) (hc : isHex c = true) (hd : isHex d = true) :
    hex4 (a :: b :: c :: d :: r) = some (hexv a * 4096 + hexv b * 256 + hexv c * 16 + hexv d, r) := by
  simp [hex4, ha, hb, hc, hd]

theorem unquoteBody_escByte (c : UInt8) (fuel : Nat) (rest : Bytes) :
    unquoteBody (fuel + 1) (escByte c ++ rest) = (unquoteBody fuel rest).map (c :: ·) := by
  rcases escByte_shape c with ⟨e, he, h⟩ | ⟨hc, h⟩ | ⟨h34, h92, h32, h⟩ <;> rw [h]
  · simp only [shortEsc, List.mem_cons, Prod.mk.injEq, List.mem_nil_iff, or_false] at he
    rcases he with ⟨rfl, rfl⟩ | ⟨rfl, rfl⟩ | ⟨rfl, rfl⟩ | ⟨rfl, rfl⟩ | ⟨rfl, rfl⟩ | ⟨rfl, rfl⟩ | ⟨rfl, rfl⟩ <;> rfl
  · obtain ⟨v1, x1, _⟩ := hexDigitByte_spec (c.toNat / 16) (by omega)
    obtain ⟨v2, x2, _⟩ := hexDigitByte_spec (c.toNat % 16) (by omega)
    have hval : hexv 48 * 4096 + hexv 48 * 256 + c.toNat / 16 * 16 + c.toNat % 16 = c.toNat := by
      rw [show hexv 48 = 0 by decide]; omega
    have hns : (decide (0xD800 ≤ c.toNat) && decide (c.toNat < 0xDC00)) = false := by
      simp; omega
    have hu : utf8 c.toNat = [c] := by simp [utf8, hc]
    simp only [List.cons_append, List.nil_append, unquoteBody, hex4_lit 48 48 _ _ rest (by decide) (by decide) x1 x2,
      v1, v2, hval, hns, Bool.false_eq_true, if_false, hu]
  · rw [List.singleton_append, unquoteBody.eq_def]
    simp [h34, h32]

theorem escByte_length_pos (c : UInt8) : 1 ≤ (escByte c).length := by
  rcases escByte_shape c with ⟨e, _, h⟩ | ⟨_, h⟩ | ⟨_, _, _, h⟩ <;> simp [h]

theorem unquoteBody_nil (fuel : Nat) : unquoteBody fuel [] = some [] := by
  cases fuel <;> rfl

theorem unquoteBody_quoteBody (x : Bytes) :
    ∀ fuel, (quoteBody x).length ≤ fuel → unquoteBody fuel (quoteBody x) = some x := by
  induction x using quoteBody.induct with
  | case1 r ih | case2 r ih =>
    intro fuel hf
    rw [quoteBody] at hf ⊢
    cases fuel with
    | zero => simp at hf
    | succ f =>
      have := ih f (by simp at hf; omega)
      simp [unquoteBody, hex4, isHex, isDigit, hexv, utf8, this]
  | case3 c r h1 h2 ih =>
    intro fuel hf
    rw [quoteBody.eq_3 c r h1 h2] at hf ⊢
    have := escByte_length_pos c
    rw [List.length_append] at hf
    cases fuel with
    | zero => omega
    | succ f => rw [unquoteBody_escByte, ih f (by omega)]; rfl
  | case4 => intro fuel _; rw [quoteBody]; exact unquoteBody_nil fuel

/-- **decoding a string literal produced by the encoder gives back the string** -/
theorem unquote_quote (x : Bytes) : unquote (quote x) = some x := by
  unfold unquote quote
  simp only [List.cons_append, List.reverse_append, List.reverse_cons, List.reverse_nil, List.nil_append,
    List.reverse_reverse, List.length_reverse]
  exact unquoteBody_quoteBody x _ (Nat.le_refl _)

end Jrpc.Json
