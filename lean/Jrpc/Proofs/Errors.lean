import Jrpc.Model.Errors
/-! What `toWire` and `fromWire` compute, shape by shape. Used by `Props.C14` and by `Tie.Decide`. -/
namespace Jrpc.Errors

/-- the error branch of `tasks.responses` for an error that is not itself an `*Error` -/
theorem toWire_of_not_jerr {e : Err} (hj : ∀ c m d, e ≠ .jerr c m d) :
    toWire e =
      if errorCode (some e) ≠ NoError then ⟨errorCode (some e), errText e, none⟩
      else ⟨InternalError, errText e, none⟩ := by
  cases e with
  | jerr c m d => exact absurd rfl (hj c m d)
  | _ => rfl

theorem toWire_code {e : Err} (h : errorCode (some e) ≠ NoError) : (toWire e).code = errorCode (some e) := by
  cases e with
  | jerr c m d => rfl
  | _ =>
    rw [toWire_of_not_jerr, if_pos h]
    exact fun _ _ _ h => nomatch h

theorem fromWire_cancelled {w : WireErr} (h : w.code = Cancelled) : fromWire w = .canceled :=
  if_pos h

theorem fromWire_deadline {w : WireErr} (h : w.code = DeadlineExceeded) : fromWire w = .deadline := by
  rw [fromWire, if_neg (h ▸ by decide), if_pos h]

theorem fromWire_other {w : WireErr} (h1 : w.code ≠ Cancelled) (h2 : w.code ≠ DeadlineExceeded) :
    fromWire w = .jerr w.code w.msg w.data := by
  rw [fromWire, if_neg h1, if_neg h2]

theorem errorCode_fromWire (w : WireErr) : errorCode (some (fromWire w)) = w.code := by
  by_cases h1 : w.code = Cancelled
  · rw [fromWire_cancelled h1, h1]; rfl
  · by_cases h2 : w.code = DeadlineExceeded
    · rw [fromWire_deadline h2, h2]; rfl
    · rw [fromWire_other h1 h2]; rfl

end Jrpc.Errors
