import Jrpc.Proofs.Scanner
/-! Helper lemmas for `emit_parse_roundtrip`: the scanner automaton run on a value nested one level
deep mirrors its run on the value alone (`step_lift`, `run_lift`), hence the member splitter cuts an
emitted object text exactly at the delimiters the encoder wrote (`members_objText`). The definitions
those three statements are made of (`lift`, `depthOK`, `objText`, `GoodMember`, `CutsAsValue`, `endQ`)
stand among the lemmas. The proofs turn on two notions: `Scans s v s'` (scanned, and scannable one
level deeper) and `Part v` (a pre-encoded value). -/
namespace Jrpc.Json

/-- scanner states inside a string literal -/
def strQ (q : Q) : Bool :=
  match q with
  | .inString | .inStringEsc | .escU | .escU1 | .escU12 | .escU123 => true
  | _ => false

theorem top_no_delim {q : Q} (hq : strQ q = false) {b : UInt8} (hb : b = 44 ∨ b = 58) :
    step ⟨q, []⟩ b = none := by
  have : step ⟨q, []⟩ 44 = none ∧ step ⟨q, []⟩ 58 = none := by
    cases q <;> first | exact absurd hq (by decide) | decide
  rcases hb with rfl | rfl
  · exact this.1
  · exact this.2

def liftQ (q : Q) : Q := if q = .endTop then .endValue else q

/-- the state one level deep that corresponds to a state of the stand-alone run (the head of `st` is
the innermost frame, so the enclosing one goes to the end) -/
def lift (fr : Frame) (s : S) : S := ⟨liftQ s.q, s.st ++ [fr]⟩

theorem lift_mk (fr : Frame) {q : Q} (st : List Frame) (hq : q ≠ .endTop) :
    lift fr ⟨q, st⟩ = ⟨q, st ++ [fr]⟩ := by
  simp only [lift, liftQ, hq, if_false]

/-- whenever `o` succeeds, `o'` succeeds with the lifted state; used like `Returns`, for two parallel
`if` cascades -/
def LiftsTo (fr : Frame) (o o' : Option S) : Prop := ∀ s', o = some s' → o' = some (lift fr s')

theorem liftsTo_ite {fr : Frame} {c : Prop} [Decidable c] {a b a' b' : Option S} :
    LiftsTo fr (if c then a else b) (if c then a' else b') ↔
      (c → LiftsTo fr a a') ∧ (¬ c → LiftsTo fr b b') := by
  split <;> simp [*]

theorem liftsTo_some {fr : Frame} {s t : S} : LiftsTo fr (some s) (some t) ↔ t = lift fr s := by
  simp [LiftsTo]

theorem liftsTo_none {fr : Frame} {o' : Option S} : LiftsTo fr none o' := by
  simp [LiftsTo]

theorem pop_lift (fr x : Frame) (r : List Frame) : pop (x :: (r ++ [fr])) = lift fr (pop (x :: r)) := by
  cases r <;> rfl

theorem endValue_liftsTo (fr : Frame) (st : List Frame) (c : UInt8) :
    LiftsTo fr (endValue st c) (endValue (st ++ [fr]) c) := by
  cases st with
  | nil =>
    intro s' h
    simp only [endValue, Option.ite_none_right_eq_some, Option.some.injEq] at h
    obtain ⟨hs, rfl⟩ := h
    simp [endValue, hs, lift, liftQ]
  | cons x r =>
    cases x <;>
      simp only [endValue, List.cons_append, liftsTo_ite, liftsTo_some, liftsTo_none, pop_lift,
        lift_mk, ne_eq, reduceCtorEq, not_false_eq_true, implies_true, and_self]

/-- (`+ 2`: `push` needs room for one more frame, on a stack that `fr` has already made one longer) -/
theorem beginValue_liftsTo (fr : Frame) (st : List Frame) (c : UInt8)
    (hd : st.length + 2 ≤ maxNestingDepth) :
    LiftsTo fr (beginValue st c) (beginValue (st ++ [fr]) c) := by
  have h1 : st.length + 1 ≤ maxNestingDepth := by omega
  have h2 : (st ++ [fr]).length + 1 ≤ maxNestingDepth := by simpa using hd
  simp only [beginValue, push, h1, h2, if_true, liftsTo_ite, liftsTo_some, liftsTo_none, lift_mk,
    List.cons_append, ne_eq, reduceCtorEq, not_false_eq_true, implies_true, and_self]

theorem beginString_liftsTo (fr : Frame) (st : List Frame) (c : UInt8) :
    LiftsTo fr (beginString st c) (beginString (st ++ [fr]) c) := by
  simp only [beginString, liftsTo_ite, liftsTo_some, liftsTo_none, lift_mk, ne_eq, reduceCtorEq,
    not_false_eq_true, implies_true, and_self]

theorem lit_liftsTo (fr : Frame) (st : List Frame) (c w : UInt8) {nx : Q} (hn : nx ≠ .endTop) :
    LiftsTo fr (lit st c w nx) (lit (st ++ [fr]) c w nx) := by
  simp only [lit, liftsTo_ite, liftsTo_some, liftsTo_none, lift_mk _ _ hn, implies_true, and_self]

/-- **one step one level deep mirrors the stand-alone step** -/
theorem step_lift (fr : Frame) (s s' : S) (b : UInt8) (hd : s.st.length + 2 ≤ maxNestingDepth)
    (h : step s b = some s') : step (lift fr s) b = some (lift fr s') := by
  suffices LiftsTo fr (step s b) (step (lift fr s) b) from this s' h
  obtain ⟨q, st⟩ := s
  cases q
  case endTop =>
    intro s' h
    simp only [step, Option.ite_none_right_eq_some, Option.some.injEq] at h
    obtain ⟨hs, rfl⟩ := h
    cases st <;> simp [step, endValue, hs, lift, liftQ]
  case beginStringOrEmpty =>
    simp only [lift, liftQ, step, liftsTo_ite, liftsTo_some, beginString_liftsTo, reduceCtorEq,
      if_false, implies_true, true_and, and_true]
    intro _ _
    cases st with
    | nil => exact liftsTo_none
    | cons x r => exact endValue_liftsTo fr (.objVal :: r) b
  all_goals
    simp only [lift, liftQ, step, liftsTo_ite, liftsTo_some, liftsTo_none, endValue_liftsTo,
      beginValue_liftsTo _ _ _ hd, beginString_liftsTo, lit_liftsTo, ne_eq, reduceCtorEq,
      not_false_eq_true, if_false, implies_true, and_self]

/-- the value being scanned never nests deeper than the scanner allows one level further in -/
def depthOK (s : S) : Bytes → Bool
  | [] => true
  | b :: r => decide (s.st.length + 2 ≤ maxNestingDepth) &&
    (match step s b with
     | some s' => depthOK s' r
     | none => true)

/-- `v` takes the scanner from `s` to `s'` and can be scanned one level deeper as well -/
def Scans (s : S) (v : Bytes) (s' : S) : Prop := run s v = some s' ∧ depthOK s v = true

theorem Scans.nil (s : S) : Scans s [] s := ⟨rfl, rfl⟩

theorem Scans.cons {s t s' : S} {b : UInt8} {v : Bytes} (hd : s.st.length + 2 ≤ maxNestingDepth)
    (hs : step s b = some t) (h : Scans t v s') : Scans s (b :: v) s' := by
  simp [Scans, run, depthOK, hs, hd, h.1, h.2]

theorem Scans.uncons {s s' : S} {b : UInt8} {v : Bytes} (h : Scans s (b :: v) s') :
    s.st.length + 2 ≤ maxNestingDepth ∧ ∃ t, step s b = some t ∧ Scans t v s' := by
  obtain ⟨hr, hd⟩ := h
  cases hs : step s b with
  | none => simp [run, hs] at hr
  | some t =>
    simp only [run, hs, Option.bind_some] at hr
    simp only [depthOK, hs, Bool.and_eq_true, decide_eq_true_eq] at hd
    exact ⟨hd.1, t, rfl, hr, hd.2⟩

theorem Scans.append {s t s' : S} {a b : Bytes} (h1 : Scans s a t) (h2 : Scans t b s') :
    Scans s (a ++ b) s' := by
  induction a generalizing s with
  | nil => cases h1.1; exact h2
  | cons x r ih =>
    obtain ⟨hd, u, hs, hu⟩ := h1.uncons
    exact .cons hd hs (ih hu)

theorem run_lift (fr : Frame) (s s' : S) (v : Bytes) (h : run s v = some s') (hd : depthOK s v = true) :
    run (lift fr s) v = some (lift fr s') := by
  induction v generalizing s with
  | nil => cases h; rfl
  | cons b r ih =>
    obtain ⟨hd, t, hs, ht⟩ := Scans.uncons ⟨h, hd⟩
    rw [run, step_lift fr s t b hd hs]
    exact ih t ht.1 ht.2

/-- `cutStep` with the string-state test named -/
theorem cutStep_def (c : Cut) (b : UInt8) :
    cutStep c b =
      match step c.s b with
      | none => none
      | some s' =>
        let d := c.s.st.length
        let d' := s'.st.length
        let isDelim := d == 1 && (b == 44 || b == 58) && !strQ c.s.q
        let isClose := d == 1 && d' == 0
        let isOpen := d == 0 && d' == 1
        if isOpen then some { c with s := s' }
        else if isDelim || isClose then
          let fin := if c.started then (c.cur.dropWhile isSpace).reverse :: c.out else c.out
          some { s := s', cur := [], started := false, out := fin }
        else if !c.started && isSpace b then some { c with s := s' }
        else some { c with s := s', cur := b :: c.cur, started := true } := by
  obtain ⟨⟨q, st⟩, cur, started, out⟩ := c
  cases q <;> rfl

theorem strQ_liftQ (q : Q) : strQ (liftQ q) = strQ q := by cases q <;> rfl

/-- inside a value one level deep nothing is cut: the byte joins the current piece (a blank before
the piece has started is skipped instead, which is excluded here) -/
theorem cutStep_inner (fr : Frame) (s s' : S) (b : UInt8) (cur : Bytes) (out : List Bytes) (started : Bool)
    (h : step s b = some s') (hd : s.st.length + 2 ≤ maxNestingDepth)
    (hs : started = true ∨ isSpace b = false) :
    cutStep ⟨lift fr s, cur, started, out⟩ b = some ⟨lift fr s', b :: cur, true, out⟩ := by
  have hlen : ∀ t : S, (lift fr t).st.length = t.st.length + 1 := fun t => by simp [lift]
  -- a `,` or `:` that the stand-alone scanner accepts is inside a string or nested deeper
  have hdelim : (s.st.length + 1 == 1 && (b == 44 || b == 58) && !strQ (liftQ s.q)) = false := by
    rw [strQ_liftQ]
    obtain ⟨q, st⟩ := s
    cases hq : strQ q with
    | true => simp
    | false =>
      cases st with
      | cons x r => simp
      | nil =>
        by_cases hb : b = 44 ∨ b = 58
        · rw [top_no_delim hq hb] at h
          cases h
        · simp [not_or.mp hb]
  rw [cutStep_def]
  simp only [step_lift fr s s' b hd h, hlen, show (lift fr s).q = liftQ s.q from rfl, hdelim]
  rcases hs with hs | hs <;> simp [hs]

theorem cutRun_inner (fr : Frame) {s s' : S} {v : Bytes} (cur : Bytes) (out : List Bytes)
    (h : Scans s v s') :
    cutRun ⟨lift fr s, cur, true, out⟩ v = some ⟨lift fr s', v.reverse ++ cur, true, out⟩ := by
  induction v generalizing s cur with
  | nil => cases h.1; rfl
  | cons b r ih =>
    obtain ⟨hd, t, hs, ht⟩ := h.uncons
    rw [cutRun, cutStep_inner fr s t b cur out true hs hd (.inl rfl), Option.bind_some, ih (b :: cur) ht]
    simp

/-- **a token scanned from `q0` over an empty stack is, one level deep, cut as one piece**: no
delimiter is seen inside it and the whole text joins the current piece -/
theorem cut_scanned (fr : Frame) {q0 : Q} (hq0 : q0 ≠ .endTop) {b : UInt8} {r : Bytes} {s1 : S}
    (out : List Bytes) (hb : isSpace b = false) (h : Scans ⟨q0, []⟩ (b :: r) s1) :
    cutRun ⟨⟨q0, [fr]⟩, [], false, out⟩ (b :: r) = some ⟨lift fr s1, (b :: r).reverse, true, out⟩ := by
  obtain ⟨hd, t, hs, ht⟩ := h.uncons
  have h1 := cutStep_inner fr ⟨q0, []⟩ t b [] out false hs hd (.inr hb)
  rw [lift_mk fr [] hq0, List.nil_append] at h1
  rw [cutRun, h1, Option.bind_some, cutRun_inner fr [b] out ht]
  simp

/-- states in which a value one level deep is complete, so that the next `,` `:` `}` `]` acts as the
end of that value -/
def endQ (q : Q) : Bool :=
  match q with
  | .endValue | .num1 | .num0 | .dot0 | .e0 => true
  | _ => false

theorem atEnd_eq (q : Q) (st : List Frame) :
    atEnd ⟨q, st⟩ = (q == .endTop || (endQ q && st.isEmpty)) := by
  cases st <;> cases q <;> rfl

/-- `v` is cut as ONE piece when it stands as a value directly inside an object or array: scanned
from the value position under any frame, no delimiter is seen inside it, the whole text joins the
current piece, and the scanner ends ready for the container's next delimiter -/
def CutsAsValue (v : Bytes) : Prop :=
  ∀ (fr : Frame) (out : List Bytes), ∃ s1 : S,
    cutRun ⟨⟨.beginValue, [fr]⟩, [], false, out⟩ v = some ⟨s1, v.reverse, true, out⟩ ∧
    s1.st = [fr] ∧ endQ s1.q = true

/-- a pre-encoded value as `json.Marshal` yields it: one JSON value with no blank before or after it,
nesting less deep than the scanner's limit minus one (`Wire.partB` is the executable test) -/
structure Part (v : Bytes) : Prop where
  first : ∃ b r, v = b :: r ∧ isSpace b = false
  scans : ∃ s1, Scans start v s1 ∧ atEnd s1 = true
  trimR : v.reverse.dropWhile isSpace = v.reverse

theorem part_cuts (v : Bytes) (h : Part v) : CutsAsValue v := by
  intro fr out
  obtain ⟨b, r, rfl, hb⟩ := h.first
  obtain ⟨⟨q, st⟩, hscan, hend⟩ := h.scans
  refine ⟨_, cut_scanned fr (by decide) out hb hscan, ?_⟩
  have hinv : TopInv ⟨q, st⟩ := isRun.invariant step_inv (fun _ => rfl) hscan.1
  simp only [atEnd_eq, Bool.or_eq_true, Bool.and_eq_true, beq_iff_eq, List.isEmpty_iff] at hend
  rcases hend with rfl | ⟨hq, rfl⟩
  · cases hinv rfl
    exact ⟨rfl, rfl⟩
  · have : q ≠ .endTop := by rintro rfl; cases hq
    exact ⟨rfl, by rw [lift_mk fr [] this]; exact hq⟩

/-- over an empty stack the depth bound is free -/
theorem Scans.flat {q q' : Q} {b : UInt8} {v : Bytes} {s' : S} (hs : step ⟨q, []⟩ b = some ⟨q', []⟩)
    (h : Scans ⟨q', []⟩ v s') : Scans ⟨q, []⟩ (b :: v) s' :=
  .cons (by decide : 0 + 2 ≤ maxNestingDepth) hs h

theorem scans_escByte (c : UInt8) : Scans ⟨.inString, []⟩ (escByte c) ⟨.inString, []⟩ := by
  have short : ∀ p ∈ shortEsc, Scans ⟨.inString, []⟩ [92, p.2] ⟨.inString, []⟩ := by
    unfold Scans; decide
  rcases escByte_shape c with ⟨e, he, h⟩ | ⟨hc, h⟩ | ⟨h34, h92, h32, h⟩ <;> rw [h]
  · exact short (c, e) he
  · have h1 := (hexDigitByte_spec (c.toNat / 16) (by omega)).2.1
    have h2 := (hexDigitByte_spec (c.toNat % 16) (by omega)).2.1
    exact .flat (q' := .inStringEsc) rfl <| .flat (q' := .escU) rfl <| .flat (q' := .escU1) rfl <|
      .flat (q' := .escU12) rfl <| .flat (q' := .escU123) (by simp only [step, h1, if_true]) <|
      .flat (by simp only [step, h2, if_true]) (.nil _)
  · exact .flat (by simp [step, h34, h92, h32]) (.nil _)

theorem scans_quoteBody (x : Bytes) : Scans ⟨.inString, []⟩ (quoteBody x) ⟨.inString, []⟩ := by
  induction x using quoteBody.induct with
  | case1 r ih => rw [quoteBody]; exact .append (by unfold Scans; decide) ih
  | case2 r ih => rw [quoteBody]; exact .append (by unfold Scans; decide) ih
  | case3 c r h1 h2 ih => rw [quoteBody.eq_3 c r h1 h2]; exact .append (scans_escByte c) ih
  | case4 => exact .nil _

theorem scans_quote (x : Bytes) {q0 : Q} (h0 : step ⟨q0, []⟩ 34 = some ⟨.inString, []⟩) :
    Scans ⟨q0, []⟩ (quote x) ⟨.endValue, []⟩ :=
  .flat h0 (.append (scans_quoteBody x) (by unfold Scans; decide))

theorem quote_trimR (x : Bytes) : (quote x).reverse.dropWhile isSpace = (quote x).reverse := by
  unfold quote
  simp [isSpace]

theorem part_quote (x : Bytes) : Part (quote x) :=
  ⟨⟨34, _, rfl, by decide⟩, ⟨_, scans_quote x rfl, rfl⟩, quote_trimR x⟩

theorem quote_cuts_from (x : Bytes) {q0 : Q} (hq0 : q0 = .beginString ∨ q0 = .beginStringOrEmpty)
    (fr : Frame) (out : List Bytes) :
    cutRun ⟨⟨q0, [fr]⟩, [], false, out⟩ (quote x) = some ⟨⟨.endValue, [fr]⟩, (quote x).reverse, true, out⟩ := by
  rcases hq0 with rfl | rfl <;> exact cut_scanned fr (by decide) out (by decide) (scans_quote x rfl)

theorem endQ_step (q : Q) (fr : Frame) (c : UInt8) (hq : endQ q = true)
    (hc : c = 44 ∨ c = 58 ∨ c = 125 ∨ c = 93) : step ⟨q, [fr]⟩ c = endValue [fr] c := by
  cases q <;> first
    | exact absurd hq (by decide)
    | (rcases hc with h | h | h | h <;> subst h <;> rfl)

theorem endQ_not_str (q : Q) (hq : endQ q = true) : strQ q = false := by
  cases q <;> first | (exact absurd hq (by decide)) | rfl

/-- **the piece is finished by the container's next delimiter**: after a complete value directly
inside `fr`, a `,` `:` `}` `]` that the scanner accepts ends the piece -/
theorem cutStep_end (q : Q) (fr : Frame) (c : UInt8) (cur : Bytes) (out : List Bytes) (hq : endQ q = true)
    (hc : c = 44 ∨ c = 58 ∨ c = 125 ∨ c = 93) :
    cutStep ⟨⟨q, [fr]⟩, cur, true, out⟩ c =
      (endValue [fr] c).map fun s' => ⟨s', [], false, (cur.dropWhile isSpace).reverse :: out⟩ := by
  rw [cutStep_def]
  simp only [endQ_step q fr c hq hc, endQ_not_str q hq]
  rcases hc with h | h | h | h <;> subst h <;> cases fr <;> rfl

/-- the text between the braces of an object with these (key text, value text) members -/
def objBody : List (Bytes × Bytes) → Bytes
  | [] => []
  | [(k, v)] => k ++ 58 :: v
  | (k, v) :: r => k ++ 58 :: v ++ 44 :: objBody r

def objText (kvs : List (Bytes × Bytes)) : Bytes := 123 :: objBody kvs ++ [125]

def flatPairs : List (Bytes × Bytes) → List Bytes
  | [] => []
  | (k, v) :: r => k :: v :: flatPairs r

/-- what the encoder guarantees of a member: the key is a quoted string, the value is cut as one
piece and carries no trailing blank -/
structure GoodMember (kv : Bytes × Bytes) : Prop where
  key : ∃ x, kv.1 = quote x
  val : CutsAsValue kv.2
  trimR : kv.2.reverse.dropWhile isSpace = kv.2.reverse

theorem good_part (k v : Bytes) (h : Part v) : GoodMember (quote k, v) :=
  ⟨⟨k, rfl⟩, part_cuts v h, h.trimR⟩

/-- **a piece and the delimiter after it**: a text that is cut as one piece from a fresh position in
state `q0` directly inside `fr` (a key from the key position, a value from `beginValue`) and has no
trailing blank is put out whole by the `,` `:` `}` `]` that follows it -/
theorem cut_piece {q0 : Q} {fr : Frame} {v : Bytes} {out : List Bytes}
    (h : ∃ s1 : S, cutRun ⟨⟨q0, [fr]⟩, [], false, out⟩ v = some ⟨s1, v.reverse, true, out⟩ ∧
      s1.st = [fr] ∧ endQ s1.q = true)
    (ht : v.reverse.dropWhile isSpace = v.reverse) (c : UInt8) (hc : c = 44 ∨ c = 58 ∨ c = 125 ∨ c = 93)
    (rest : Bytes) :
    cutRun ⟨⟨q0, [fr]⟩, [], false, out⟩ (v ++ c :: rest) =
      (endValue [fr] c).bind fun s' => cutRun ⟨s', [], false, v :: out⟩ rest := by
  obtain ⟨⟨q1, st1⟩, hcut, rfl, hq⟩ := h
  rw [cutIsRun.append, hcut, Option.bind_some, cutRun, cutStep_end q1 fr c _ out hq hc, ht, List.reverse_reverse]
  cases endValue [fr] c <;> rfl

theorem cut_objBody (kvs : List (Bytes × Bytes)) (hne : kvs ≠ []) (h : ∀ kv ∈ kvs, GoodMember kv)
    {q0 : Q} (hq0 : q0 = .beginString ∨ q0 = .beginStringOrEmpty) (out : List Bytes) :
    cutRun ⟨⟨q0, [.objKey]⟩, [], false, out⟩ (objBody kvs ++ [125]) =
      some ⟨⟨.endTop, []⟩, [], false, (flatPairs kvs).reverse ++ out⟩ := by
  induction kvs generalizing q0 out with
  | nil => exact absurd rfl hne
  | cons kv rest ih =>
    obtain ⟨hm, hrest⟩ := List.forall_mem_cons.mp h
    obtain ⟨k, v⟩ := kv
    obtain ⟨x, rfl⟩ : ∃ x, k = quote x := hm.key
    have hkey := cut_piece ⟨_, quote_cuts_from x hq0 .objKey out, rfl, rfl⟩ (quote_trimR x) 58 (.inr (.inl rfl))
    have hval := fun c hc => cut_piece (hm.val .objVal (quote x :: out)) hm.trimR c hc
    have h58 : endValue [.objKey] 58 = some ⟨.beginValue, [.objVal]⟩ := rfl
    cases rest with
    | nil =>
      simp only [objBody, List.append_assoc, List.cons_append]
      rw [hkey, h58, Option.bind_some, hval 125 (.inr (.inr (.inl rfl)))]
      rfl
    | cons kv2 rest2 =>
      simp only [objBody, List.append_assoc, List.cons_append]
      rw [hkey, h58, Option.bind_some, hval 44 (.inl rfl),
        show endValue [.objVal] 44 = some ⟨.beginString, [.objKey]⟩ from rfl, Option.bind_some]
      simpa [flatPairs] using ih (List.cons_ne_nil _ _) hrest (.inl rfl) (v :: quote x :: out)

theorem pairUp_flatPairs (kvs : List (Bytes × Bytes)) : pairUp (flatPairs kvs) = some kvs := by
  induction kvs with
  | nil => rfl
  | cons kv r ih => obtain ⟨k, v⟩ := kv; simp [flatPairs, pairUp, ih]

/-- **the member splitter recovers exactly the members the encoder wrote** -/
theorem members_objText (kvs : List (Bytes × Bytes)) (hne : kvs ≠ []) (h : ∀ kv ∈ kvs, GoodMember kv) :
    members (objText kvs) = some kvs := by
  have h0 : cutStep ⟨start, [], false, []⟩ 123 = some ⟨⟨.beginStringOrEmpty, [.objKey]⟩, [], false, []⟩ := by
    rw [cutStep_def]; rfl
  have hcut : cutRun ⟨start, [], false, []⟩ (objText kvs) = some ⟨⟨.endTop, []⟩, [], false, (flatPairs kvs).reverse⟩ := by
    simpa [objText, cutRun, h0] using cut_objBody kvs hne h (.inr rfl) []
  have hvalid : valid (objText kvs) = true := by
    have := cutRun_state ⟨start, [], false, []⟩ (objText kvs)
    rw [hcut] at this
    simp [valid, ← this, atEnd]
  have hfb : firstByte (objText kvs) = 123 := by
    simp [objText, firstByte, trimLeft, isAsciiSpace]
  simp [members, pieces, hfb, hvalid, hcut, pairUp_flatPairs]

end Jrpc.Json
