import Jrpc.Model.Framing
import Jrpc.Proofs.Scanner
/-! Helper lemmas: the raw-JSON receiver returns a container value exactly, whatever follows it. -/
namespace Jrpc.Framing
open Jrpc.Json (Bytes S step start)

/-- executable test: every state after a proper non-empty prefix has a non-empty stack and the last
byte brings the scanner to top level -/
def scanOpen (s : S) : Bytes → Bool
  | [] => false
  | [b] => match step s b with
    | some t => t.q == .endTop && t.st == []
    | none => false
  | b :: c :: r => match step s b with
    | some t => t.st != [] && scanOpen t (c :: r)
    | none => false

def isContainerB (v : Bytes) : Bool :=
  match v with
  | c :: _ => !Jrpc.Json.isSpace c && scanOpen start v
  | [] => false

/-- the scanning loop inside a container: by `scanOpen` the stack stays non-empty up to the last
byte, which closes the container, so the loop takes `v` whole and stops exactly after it -/
theorem rawScan_open (s : S) (cur v rest : Bytes) (hst : s.st ≠ []) (h : scanOpen s v = true) :
    rawScan s cur true (v ++ rest) = (.ok (cur.reverse ++ v), rest) := by
  induction v generalizing s cur with
  | nil => cases h
  | cons b r ih =>
    cases hs : step s b with
    | none => cases r <;> simp [scanOpen, hs] at h
    | some t =>
      cases r with
      | nil =>
        simp only [scanOpen, hs, Bool.and_eq_true, beq_iff_eq] at h
        simp [rawScan, hs, h.1, h.2, hst]
      | cons c r' =>
        simp only [scanOpen, hs, Bool.and_eq_true, bne_iff_ne, ne_eq] at h
        have := ih t (b :: cur) h.1 h.2
        rw [List.cons_append, rawScan]
        simpa [hst, hs, h.1] using this

theorem container_not_null (v : Bytes) (h : isContainerB v = true) : isNull v = false := by
  simp only [isNull, decide_eq_false_iff_not]
  rintro rfl
  exact absurd h (by decide)

theorem raw_recv_container (v rest : Bytes) (h : isContainerB v = true) :
    rawRecv (v ++ rest) = (.ok v, rest) := by
  have hnn := container_not_null v h
  obtain _ | ⟨c, r⟩ := v
  · cases h
  simp only [isContainerB, Bool.and_eq_true, Bool.not_eq_true'] at h
  obtain ⟨hsp, hopen⟩ := h
  have hscan : rawScan start [] false (c :: r ++ rest) = (.ok (c :: r), rest) := by
    cases hs : step start c with
    | none => cases r <;> simp [scanOpen, hs] at hopen
    | some t =>
      cases r with
      | nil =>
        -- one byte alone does not reach top level (`beginValue_q`)
        simp only [scanOpen, hs, Bool.and_eq_true, beq_iff_eq] at hopen
        simp only [step, start, hsp, Bool.false_eq_true, if_false] at hs
        exact absurd hopen.1 (Jrpc.Json.beginValue_q _ _ t hs)
      | cons d r' =>
        simp only [scanOpen, hs, Bool.and_eq_true, bne_iff_ne, ne_eq] at hopen
        have := rawScan_open t [c] (d :: r') rest hopen.1 hopen.2
        rw [List.cons_append, rawScan]
        simpa [hs, hsp, show start.st = [] from rfl, hopen.1] using this
  rw [rawRecv, hscan]
  simp [hnn]

end Jrpc.Framing
