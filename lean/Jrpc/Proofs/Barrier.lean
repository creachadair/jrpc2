import Jrpc.Model.Barrier
import Jrpc.Proofs.Basic
/-! Invariant of the queue + barrier machine and its preservation by every event. -/
namespace Jrpc.Barrier

def passed (s : St) : List Mem := s.released ++ s.running ++ s.finished ++ s.done
def batches (s : St) : List (List Mem) := s.parked.toList ++ s.queue
def pending (s : St) : List Mem := (batches s).flatten
def live (s : St) : List Mem := s.released ++ s.running ++ s.finished

/-- `order` is the property. `sorted`, `uniform`, `below` and `fresh` carry it through `arrive` and `pass`
(a batch that passes is not later than anything still pending); `nbar_eq` and `finNotes` make the counter
the number of unfinished notifications, so that `pass` sees zero only when all of them are done;
`notesAre` and `notesWhere` tie the history `notes` to the lists. -/
structure Inv (s : St) : Prop where
  nbar_eq : s.nbar = countNotes (live s)
  finNotes : ∀ m ∈ s.finished, m.note = true
  sorted : (pending s).Pairwise (fun a b => a.seq ≤ b.seq)
  uniform : ∀ b ∈ batches s, ∀ x ∈ b, ∀ y ∈ b, x.seq = y.seq
  below : ∀ r ∈ passed s, ∀ q ∈ pending s, r.seq ≤ q.seq
  fresh : (∀ m ∈ passed s, m.seq < s.nextSeq) ∧ (∀ m ∈ pending s, m.seq < s.nextSeq)
  notesAre : ∀ n ∈ s.notes, n.note = true
  notesWhere : ∀ n ∈ s.notes, n ∈ passed s ∨ n ∈ pending s
  order : ∀ r ∈ passed s, ∀ n ∈ passed s, n.note = true → n.seq < r.seq → n ∈ s.done

variable {s s' : St} {u : Nat}

theorem countNotes_append (a b : List Mem) : countNotes (a ++ b) = countNotes a + countNotes b := by
  simp [countNotes, List.filter_append]

theorem countNotes_cons (m : Mem) (l : List Mem) :
    countNotes (m :: l) = (if m.note then 1 else 0) + countNotes l := by
  cases h : m.note <;> simp [countNotes, h, Nat.add_comm]

theorem countNotes_eq_zero {l : List Mem} : countNotes l = 0 ↔ ∀ m ∈ l, m.note = false := by
  simp [countNotes, List.filter_eq_nil_iff]

theorem countNotes_perm {a b : List Mem} (h : a.Perm b) : countNotes a = countNotes b :=
  (h.filter _).length_eq

theorem countNotes_pos {l : List Mem} {m : Mem} (hm : m ∈ l) (hn : m.note = true) : 0 < countNotes l :=
  List.length_pos_of_mem (List.mem_filter.mpr ⟨hm, hn⟩)

theorem step_pop (hs : step s .pop = some s') :
    ∃ b q, s.parked = none ∧ s.queue = b :: q ∧ s' = { s with parked := some b, queue := q } := by
  simp only [step] at hs
  split at hs <;> cases hs
  exact ⟨_, _, ‹_›, ‹_›, rfl⟩

theorem step_pass (hs : step s .pass = some s') :
    ∃ b, s.parked = some b ∧ s.nbar = 0 ∧
      s' = { s with parked := none, nbar := countNotes b, released := s.released ++ b } := by
  simp only [step] at hs
  repeat' split at hs
  all_goals cases hs
  exact ⟨_, ‹_›, ‹_›, rfl⟩

theorem step_start (hs : step s (.start u) = some s') :
    ∃ m, s.released.find? (·.uid = u) = some m ∧
      s' = { s with released := s.released.erase m, running := m :: s.running } := by
  simp only [step] at hs
  split at hs <;> cases hs
  exact ⟨_, ‹_›, rfl⟩

theorem step_finish (hs : step s (.finish u) = some s') :
    ∃ m, s.running.find? (·.uid = u) = some m ∧
      (m.note = true ∧ s' = { s with running := s.running.erase m, finished := m :: s.finished } ∨
        m.note = false ∧ s' = { s with running := s.running.erase m, done := m :: s.done }) := by
  simp only [step] at hs
  repeat' split at hs
  all_goals cases hs
  · exact ⟨_, ‹_›, .inl ⟨‹_›, rfl⟩⟩
  · exact ⟨_, ‹_›, .inr ⟨Bool.eq_false_iff.mpr ‹_›, rfl⟩⟩

theorem step_signal (hs : step s (.signal u) = some s') :
    ∃ m, s.finished.find? (·.uid = u) = some m ∧
      s' = { s with finished := s.finished.erase m, nbar := s.nbar - 1, done := m :: s.done } := by
  simp only [step] at hs
  split at hs <;> cases hs
  exact ⟨_, ‹_›, rfl⟩

theorem inv_init : Inv init := by
  refine ⟨rfl, ?_, .nil, ?_, ?_, ⟨?_, ?_⟩, ?_, ?_, ?_⟩ <;> exact List.forall_mem_nil _

theorem inv_arrive {ms : List (Nat × Bool)} (h : Inv s) (hs : step s (.arrive ms) = some s') :
    Inv s' := by
  simp only [step, Option.some.injEq] at hs
  generalize hb : ms.map _ = b at hs
  -- the new batch carries the current `nextSeq`, which is above everything seen so far
  have hseq : ∀ x ∈ b, x.seq = s.nextSeq := by
    intro x hx
    obtain ⟨p, -, rfl⟩ := List.mem_map.mp (hb ▸ hx)
    rfl
  have hbat : batches s' = batches s ++ [b] := hs ▸ (List.append_assoc ..).symm
  have hpend : pending s' = pending s ++ b := by simp [pending, hbat]
  subst hs
  refine ⟨h.nbar_eq, h.finNotes, ?_, ?_, ?_, ⟨?_, ?_⟩, ?_, ?_, h.order⟩
  · rw [hpend, List.pairwise_append]
    exact ⟨h.sorted,
      List.pairwise_of_forall_mem_list fun x hx y hy => Nat.le_of_eq ((hseq x hx).trans (hseq y hy).symm),
      fun x hx y hy => hseq y hy ▸ Nat.le_of_lt (h.fresh.2 x hx)⟩
  · rw [hbat, List.forall_mem_append, List.forall_mem_singleton]
    exact ⟨h.uniform, fun x hx y hy => (hseq x hx).trans (hseq y hy).symm⟩
  · simp only [hpend, List.forall_mem_append]
    exact fun r hr => ⟨h.below r hr, fun q hq => hseq q hq ▸ Nat.le_of_lt (h.fresh.1 r hr)⟩
  · exact fun m hm => Nat.lt_succ_of_lt (h.fresh.1 m hm)
  · rw [hpend, List.forall_mem_append]
    exact ⟨fun m hm => Nat.lt_succ_of_lt (h.fresh.2 m hm), fun m hm => hseq m hm ▸ Nat.lt_succ_self _⟩
  · rw [List.forall_mem_append]
    exact ⟨h.notesAre, fun n hn => (List.mem_filter.mp hn).2⟩
  · rw [hpend, List.forall_mem_append]
    exact ⟨fun n hn => (h.notesWhere n hn).imp_right (List.mem_append_left _),
      fun n hn => .inr (List.mem_append_right _ (List.mem_filter.mp hn).1)⟩

theorem inv_pass (h : Inv s) (hs : step s .pass = some s') : Inv s' := by
  obtain ⟨b, hp, hz, hs⟩ := step_pass hs
  have hbat : batches s = b :: s.queue := by simp [batches, hp]
  -- the batch `b` goes from the front of `pending` to `passed`
  have hpend : pending s = b ++ pending s' := by simp [hs, pending, batches, hp]
  have hpassed : ∀ x, x ∈ passed s' ↔ x ∈ passed s ∨ x ∈ b := by
    intro x
    simp only [hs, passed, List.mem_append]
    grind
  subst hs
  have hsorted := List.pairwise_append.mp (hpend ▸ h.sorted)
  have hbelow := fun r hr => List.forall_mem_append.mp (hpend ▸ h.below r hr)
  have hfresh := List.forall_mem_append.mp (hpend ▸ h.fresh.2)
  have hlive : countNotes (live s) = 0 := h.nbar_eq ▸ hz
  refine ⟨?_, h.finNotes, hsorted.2.1, ?_, ?_, ⟨?_, hfresh.2⟩, h.notesAre, ?_, ?_⟩
  · simp only [live, countNotes_append] at hlive ⊢
    omega
  · exact fun c hc => h.uniform c (hbat ▸ List.mem_cons_of_mem _ hc)
  · exact fun r hr q hq => ((hpassed r).mp hr).elim (fun hr => (hbelow r hr).2 q hq) (hsorted.2.2 r · q hq)
  · exact fun m hm => ((hpassed m).mp hm).elim (h.fresh.1 m) (hfresh.1 m)
  · intro n hn
    simpa only [hpassed, hpend, List.mem_append, or_assoc] using h.notesWhere n hn
  · intro r hr n hn hnote hlt
    rcases (hpassed n).mp hn with hn | hn
    · -- an old notification: the barrier was at zero, so it is done
      rcases List.mem_append.mp hn with hl | hd
      · exact absurd hnote (by simp [countNotes_eq_zero.mp hlive n hl])
      · exact hd
    · -- a notification of the batch being released: nothing that has passed is later than it
      rcases (hpassed r).mp hr with hr | hr
      · exact absurd ((hbelow r hr).1 n hn) (Nat.not_le_of_lt hlt)
      · exact absurd (h.uniform b (hbat ▸ List.mem_cons_self ..) n hn r hr) (Nat.ne_of_lt hlt)

/-- Moving members around inside `passed` keeps the invariant: the batches, `nextSeq` and `notes`
are untouched, `passed` is only permuted, `done` only grows. The counter is the number of
notifications in `passed` that are not yet `done`, so it changes by what enters `done`. -/
theorem inv_move (h : Inv s) (hb : batches s' = batches s) (hn : s'.nextSeq = s.nextSeq)
    (hnotes : s'.notes = s.notes) (hperm : (passed s').Perm (passed s))
    (hdone : ∀ x ∈ s.done, x ∈ s'.done)
    (hnbar : s'.nbar + countNotes s'.done = s.nbar + countNotes s.done)
    (hfin : ∀ m ∈ s'.finished, m.note = true) : Inv s' := by
  have hpd : pending s' = pending s := congrArg List.flatten hb
  have hmem := fun x => hperm.mem_iff (a := x)
  refine ⟨?_, hfin, hpd ▸ h.sorted, hb ▸ h.uniform, ?_, ?_, hnotes ▸ h.notesAre, ?_, ?_⟩
  · have hc : countNotes (live s' ++ s'.done) = countNotes (live s ++ s.done) := countNotes_perm hperm
    have := h.nbar_eq
    simp only [countNotes_append] at hc
    omega
  · simpa only [hpd, hmem] using h.below
  · simpa only [hpd, hmem, hn] using h.fresh
  · simpa only [hpd, hmem, hnotes] using h.notesWhere
  · exact fun r hr n hn' hnote hlt => hdone n (h.order r ((hmem r).mp hr) n ((hmem n).mp hn') hnote hlt)

theorem inv_pop (h : Inv s) (hs : step s .pop = some s') : Inv s' := by
  obtain ⟨b, q, hp, hq, rfl⟩ := step_pop hs
  exact inv_move h (by simp [batches, hp, hq]) rfl rfl (.refl _) (fun _ => id) rfl h.finNotes

theorem inv_start (h : Inv s) (hs : step s (.start u) = some s') : Inv s' := by
  obtain ⟨m, hf, rfl⟩ := step_start hs
  refine inv_move h rfl rfl rfl ?_ (fun _ => id) rfl h.finNotes
  simp only [passed, List.append_assoc]
  exact perm_move (List.mem_of_find?_eq_some hf) [] _

theorem inv_finish (h : Inv s) (hs : step s (.finish u) = some s') : Inv s' := by
  obtain ⟨m, hf, ⟨hn, rfl⟩ | ⟨hn, rfl⟩⟩ := step_finish hs
  all_goals have hm := List.mem_of_find?_eq_some hf
  · refine inv_move h rfl rfl rfl ?_ (fun _ => id) rfl (List.forall_mem_cons.mpr ⟨hn, h.finNotes⟩)
    simp only [passed, List.append_assoc]
    exact (perm_move hm [] _).append_left _
  · refine inv_move h rfl rfl rfl ?_ (fun _ => List.mem_cons_of_mem _) ?_ h.finNotes
    · simp only [passed, List.append_assoc]
      exact (perm_move hm _ _).append_left _
    · simp [countNotes_cons, hn]

theorem inv_signal (h : Inv s) (hs : step s (.signal u) = some s') : Inv s' := by
  obtain ⟨m, hf, rfl⟩ := step_signal hs
  have hm := List.mem_of_find?_eq_some hf
  have hn := h.finNotes m hm
  refine inv_move h rfl rfl rfl ?_ (fun _ => List.mem_cons_of_mem _) ?_
    fun x hx => h.finNotes x (List.mem_of_mem_erase hx)
  · simp only [passed, List.append_assoc]
    exact ((perm_move hm [] _).append_left _).append_left _
  · -- `m` is a finished notification, so the counter is positive
    have : 0 < s.nbar := h.nbar_eq ▸ countNotes_pos (List.mem_append_right _ hm) hn
    simp only [countNotes_cons, hn, if_true]
    omega

theorem inv_stop (h : Inv s) (hs : step s .stop = some s') : Inv s' := by
  simp only [step, Option.some.injEq] at hs
  have hpend : pending s = s.parked.toList.flatten ++ s.queue.flatten := List.flatten_append
  have hpend' : pending s' = s.parked.toList.flatten ++ s.queue.flatten.filter (·.note) := by
    rw [← hs, pending, batches, List.flatten_append, ← List.flatMap_def, List.flatMap_singleton']
  -- what stays pending stays in order; the queued notifications all stay
  have hsub : (pending s').Sublist (pending s) := hpend ▸ hpend' ▸ List.filter_sublist.append_left _
  subst hs
  refine ⟨h.nbar_eq, h.finNotes, h.sorted.sublist hsub, ?_, fun r hr q hq => h.below r hr q (hsub.subset hq),
    ⟨h.fresh.1, fun m hm => h.fresh.2 m (hsub.subset hm)⟩, h.notesAre, ?_, h.order⟩
  · intro c hc
    rcases List.mem_append.mp hc with hc | hc
    · exact h.uniform c (List.mem_append_left _ hc)
    · obtain ⟨m, -, rfl⟩ := List.mem_map.mp hc
      simp
  · intro n hn
    refine (h.notesWhere n hn).imp_right fun w => ?_
    simpa only [hpend, hpend', List.mem_append, List.mem_filter, h.notesAre n hn, and_true] using w

theorem inv_step {e : Ev} (h : Inv s) (hs : step s e = some s') : Inv s' := by
  cases e with
  | arrive ms => exact inv_arrive h hs
  | pop => exact inv_pop h hs
  | pass => exact inv_pass h hs
  | start u => exact inv_start h hs
  | finish u => exact inv_finish h hs
  | signal u => exact inv_signal h hs
  | stop => exact inv_stop h hs

theorem isRun : IsRun step run := ⟨fun _ => rfl, fun _ _ _ => rfl⟩

/-- the handler events still to come for what is live: `start`, `finish`, `signal` for a member not yet
started, and so on -/
def mu (s : St) : Nat := 3 * s.released.length + 2 * s.running.length + s.finished.length

theorem find_head (m : Mem) (l : List Mem) : (m :: l).find? (·.uid = m.uid) = some m := by
  simp [List.find?]

theorem live_step (s : St) (hl : live s ≠ []) :
    ∃ e s', step s e = some s' ∧ mu s' < mu s ∧ s'.parked = s.parked ∧ s'.queue = s.queue := by
  match hr : s.released, hrun : s.running, hf : s.finished with
  | m :: _, _, _ =>
    refine ⟨.start m.uid, _, by rw [step, hr, find_head], ?_, ?_, ?_⟩ <;> simp [mu, hr]
    omega
  | _, m :: _, _ =>
    cases hn : m.note
    · refine ⟨.finish m.uid, _, by simp [step, hrun, hn]; rfl, ?_, ?_, ?_⟩ <;> simp [mu, hrun]
    · refine ⟨.finish m.uid, _, by simp [step, hrun, hn]; rfl, ?_, ?_, ?_⟩ <;> simp [mu, hrun]
      omega
  | _, _, m :: _ =>
    refine ⟨.signal m.uid, _, by rw [step, hf, find_head], ?_, ?_, ?_⟩ <;> simp [mu, hf]
  | [], [], [] => exact absurd (by simp [live, hr, hrun, hf]) hl

/-- the handlers that are live can always run to completion, whatever else is pending: there is a
continuation (handler starts, returns, barrier signals only) after which nothing is live -/
theorem drain (s : St) :
    ∃ es s', run s es = some s' ∧ live s' = [] ∧ s'.parked = s.parked ∧ s'.queue = s.queue := by
  induction s using (measure mu).wf.induction with
  | _ s ih =>
    by_cases hl : live s = []
    · exact ⟨[], s, rfl, hl, rfl, rfl⟩
    · obtain ⟨e, s1, hstep, hlt, hp, hq⟩ := live_step s hl
      obtain ⟨es, s2, hrun, hl2, hp2, hq2⟩ := ih s1 hlt
      exact ⟨e :: es, s2, by simp [run, hstep, hrun], hl2, hp2.trans hp, hq2.trans hq⟩

end Jrpc.Barrier
